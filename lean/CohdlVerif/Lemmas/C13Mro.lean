import CohdlVerif.Lemmas.C13Hist
import CohdlVerif.Lemmas.C13C3Map
import Mathlib.Data.List.Induction
/-! C13 part A - closed form of the method resolution order (`mroK`), its C3 certificate on parameter tuples
    (`mroK_c3`, all shapes, symbolic widths / orders / directions / element types) and the table theorem
    `mroTable_spec`: in every well-formed class table the C3 merge of every class succeeds and yields `mroK`. -/
namespace CohdlVerif.C13

def tqTail : List Key := [.root .tq, .root .tqBase, .root .object]
def primTail : List Key := [.root .primType, .root .object]

def rootMro : Root → List Key
  | .object => [.root .object]
  | .primType => .root .primType :: [.root .object]
  | .bit => .root .bit :: primTail
  | .boolean => .root .boolean :: primTail
  | .integer => .root .integer :: primTail
  | .bitvector => .root .bitvector :: primTail
  | .unsigned => .root .unsigned :: .root .bitvector :: primTail
  | .signed => .root .signed :: .root .bitvector :: primTail
  | .array => .root .array :: primTail
  | .tqBase => [.root .tqBase, .root .object]
  | .tq => tqTail
  | .signal => .root .signal :: tqTail
  | .port => .root .port :: .root .signal :: tqTail
  | .variable => .root .variable :: tqTail
  | .temporary => .root .temporary :: tqTail

/-- classes of one qualifier family above the anonymous parent of `Q[K[o,w]]` -/
def chainA (qk : QKind) (d : Option Dir) (k : VKind) (w : Nat) : List Key :=
  [.q qk d (.root (kroot k)), .q qk d (.vec .bv .downto w), .q qk d (.root .bitvector)]

/-- classes of one qualifier family (kind, direction) in the MRO of `Q[t]`, the family root excluded -/
def qChain (qk : QKind) (d : Option Dir) : Key → List Key
  | .vec k o w => match k with
      | .bv => [.q qk d (.vec .bv o w), .q qk d (.root .bitvector)]
      | .uns => [.q qk d (.vec .uns o w), .anon qk d .uns o w] ++ chainA qk d .uns w
      | .sgn => [.q qk d (.vec .sgn o w), .anon qk d .sgn o w] ++ chainA qk d .sgn w
  | .root r => match r with
      | .unsigned => [.q qk d (.root .unsigned), .q qk d (.root .bitvector)]
      | .signed => [.q qk d (.root .signed), .q qk d (.root .bitvector)]
      | r => [.q qk d (.root r)]
  | t => [.q qk d t]

def mroK : Key → List Key
  | .root r => rootMro r
  | .vec k o w => match k with
      | .bv => .vec .bv o w :: .root .bitvector :: primTail
      | .uns => .vec .uns o w :: .root .unsigned :: .vec .bv .downto w :: .root .bitvector :: primTail
      | .sgn => .vec .sgn o w :: .root .signed :: .vec .bv .downto w :: .root .bitvector :: primTail
  | .arr e n => .arr e n :: .root .array :: primTail
  | .q qk d t => match qk with
      | .port => qChain .port d t ++ [.root .port] ++ qChain .signal none t ++ [.root .signal] ++ tqTail
      | qk => qChain qk d t ++ [.root (qroot qk)] ++ tqTail
  | .anon qk d k o w => match qk with
      | .port => .anon .port d k o w :: chainA .port d k w ++ [.root .port] ++ chainA .signal none k w ++ [.root .signal] ++ tqTail
      | qk => .anon qk d k o w :: chainA qk d k w ++ [.root (qroot qk)] ++ tqTail

def idxT (st : St) (k : Key) : Nat := (find st k).getD 0

def keyLists (k : Key) : List (List Key) := (baseKeys k).map mroK ++ [baseKeys k]
def fuelOf (k : Key) : Nat := ((keyLists k).map List.length).sum + 1


theorem qChain_plain {t : Key} (h : qParent .signal none t = .root .signal) (qk : QKind) (d : Option Dir) :
    qChain qk d t = [.q qk d t] := by
  cases t with
  | root r => cases r <;> first | rfl | cases h
  | vec k o w => cases k <;> cases h
  | _ => rfl

theorem mroK_cons (k : Key) : mroK k = k :: (mroK k).tail := by
  cases k with
  | root r => cases r <;> rfl
  | vec k o w => cases k <;> rfl
  | arr e n => rfl
  | anon qk d k o w => cases qk <;> rfl
  | q qk d t =>
    have h : qChain qk d t = .q qk d t :: (qChain qk d t).tail := by
      cases t with
      | root r => cases r <;> rfl
      | vec k o w => cases k <;> rfl
      | _ => rfl
    cases qk <;> simp only [mroK] <;> rw [h] <;> rfl

variable {α : Type} [DecidableEq α] in
theorem c3merge_filter (n : Nat) (ls : List (List α)) : c3merge n (ls.filter (· ≠ [])) = c3merge n ls := by
  cases n with
  | zero => rfl
  | succ n => simp only [c3merge, List.filter_filter, Bool.and_self]

variable {α : Type} [DecidableEq α] in
theorem c3merge_one : ∀ (t : List α) (n : Nat), t.Nodup → t.length < n → c3merge n [t] = some t := by
  intro t
  induction t with
  | nil => intro n _ hn; cases n with | zero => omega | succ n => rfl
  | cons x t ih =>
    intro n hnd hn
    cases n with
    | zero => omega
    | succ n =>
      obtain ⟨hx, hnd'⟩ := List.nodup_cons.mp hnd
      simp [c3merge, pickHead, inTail, hx, dropHead, ih n hnd' (by simpa using hn)]

variable {α : Type} [DecidableEq α] in
/-- single inheritance: the linearisation is that of the one base -/
theorem c3merge_single (b : α) (t : List α) (hnd : (b :: t).Nodup) (n : Nat) (hn : t.length + 2 ≤ n) :
    c3merge n [b :: t, [b]] = some (b :: t) := by
  obtain ⟨hx, hnd'⟩ := List.nodup_cons.mp hnd
  obtain ⟨n, rfl⟩ : ∃ m, n = m + 1 := ⟨n - 1, by omega⟩
  have h3 : c3merge n [t, []] = some t := by
    rw [← c3merge_filter]
    cases t with
    | nil => cases n with | zero => omega | succ n => rfl
    | cons y t => exact c3merge_one _ n hnd' (by omega)
  simp [c3merge, pickHead, inTail, hx, dropHead, h3]

theorem mroK_c3_single (k b : Key) (hb : baseKeys k = [b]) (hm : mroK k = k :: mroK b) (hnd : (mroK b).Nodup) :
    c3merge (fuelOf k) (keyLists k) = some (mroK k).tail := by
  obtain ⟨tl, htl⟩ : ∃ tl, mroK b = b :: tl := ⟨_, mroK_cons b⟩
  rw [hm, List.tail_cons, fuelOf, keyLists, hb]
  show c3merge ((List.map List.length [mroK b, [b]]).sum + 1) [mroK b, [b]] = some (mroK b)
  rw [htl] at hnd ⊢
  refine c3merge_single b tl hnd _ ?_
  simp only [List.map_cons, List.map_nil, List.sum_cons, List.sum_nil, List.length_cons, List.length_nil]
  omega

/-- evaluates the C3 merge of a key shape with symbolic width / order / direction / wrapped type (the two-base shapes) -/
macro "c3simp" : tactic => `(tactic|
  simp [fuelOf, keyLists, baseKeys, rootBases, qParent, mroK, qChain, chainA, kroot, qroot, tqTail, primTail, rootMro,
    c3merge, pickHead, inTail, dropHead])

-- not every shape needs every unfolding of `c3simp`
set_option linter.unusedSimpArgs false

/-- `Q[T]` for a qualifier other than Port has the one base `parent_cls` -/
theorem mroK_q_single (qk : QKind) (hq : qk ≠ .port) (d : Option Dir) (t : Key) :
    mroK (.q qk d t) = .q qk d t :: mroK (qParent qk d t) := by
  cases qk with
  | port => exact absurd rfl hq
  | _ =>
    cases t with
    | root r => cases r <;> rfl
    | vec k o w => cases k <;> rfl
    | _ => rfl

theorem nodup_qParent (qk : QKind) (hq : qk ≠ .port) (d : Option Dir) (t : Key) : (mroK (qParent qk d t)).Nodup := by
  have hbv : (mroK (.q qk d (.root .bitvector))).Nodup := by
    cases qk <;> first | exact absurd rfl hq | simp [mroK, qroot, tqTail, qChain]
  have han : ∀ k o w, k ≠ .bv → (mroK (.anon qk d k o w)).Nodup := by
    intro k o w hk
    cases qk <;> cases k <;> first | exact absurd rfl hq | exact absurd rfl hk | simp [mroK, qroot, tqTail, chainA, kroot]
  rcases wrapped_forms t with h | ⟨k, o, w, rfl⟩ | rfl | rfl
  · rw [(h qk d).1]
    cases qk <;> first | exact absurd rfl hq | decide
  · cases k with
    | bv => exact hbv
    | uns => exact han .uns o w nofun
    | sgn => exact han .sgn o w nofun
  · exact hbv
  · exact hbv

theorem mroK_c3_q (qk : QKind) (d : Option Dir) (t : Key) :
    c3merge (fuelOf (.q qk d t)) (keyLists (.q qk d t)) = some (mroK (.q qk d t)).tail := by
  by_cases hq : qk = .port
  · subst hq
    -- `(parent_cls, Signal[WrappedType])`: the merge is evaluated, once for all wrapped types the if-tree does not single out
    rcases wrapped_forms t with h | ⟨k, o, w, rfl⟩ | rfl | rfl
    · simp only [fuelOf, keyLists, baseKeys, List.map_cons, List.map_nil, mroK, (h _ _).1, qChain_plain (h .signal none).1]
      simp [rootMro, qroot, tqTail, c3merge, pickHead, inTail, dropHead]
    · cases k <;> c3simp
    · c3simp
    · c3simp
  · refine mroK_c3_single _ _ ?_ (mroK_q_single qk hq d t) (nodup_qParent qk hq d t)
    rw [baseKeys_q, if_neg hq]

theorem mroK_c3 (k : Key) (hg : goodKey k = true) : c3merge (fuelOf k) (keyLists k) = some (mroK k).tail := by
  cases k with
  | root r =>
    cases r with
    | object => rfl
    | _ => exact mroK_c3_single _ _ rfl rfl (by decide)
  | vec k o w =>
    cases k with
    | bv => exact mroK_c3_single _ _ rfl rfl (by decide)
    | _ => c3simp
  | arr e n => exact mroK_c3_single _ _ rfl rfl (by decide)
  | anon qk d k o w =>
    cases k with
    | bv => cases hg
    | _ => cases qk <;> c3simp
  | q qk d t => exact mroK_c3_q qk d t

theorem mroTable_snoc (st : St) (c : Cls) : mroTable (st ++ [c]) = mroTable st ++ [mroEntry (mroTable st) c] := by
  simp [mroTable, List.foldl_append]

theorem mroTable_length : ∀ st : St, (mroTable st).length = st.length := by
  intro st
  induction st using List.reverseRecOn with
  | nil => rfl
  | append_singleton st c ih => simp [mroTable_snoc, ih]

/-- `mroEntry` once the MROs `ms` of the bases have been looked up -/
theorem mroEntry_of_lookup (tbl : List (Option (List Nat))) (c : Cls) (ms : List (List Nat))
    (h : c.bases.map (lookupMro tbl) = ms.map some) :
    mroEntry tbl c =
      (c3merge (((ms ++ [c.bases]).map List.length).sum + 1) (ms ++ [c.bases])).map (tbl.length :: ·) := by
  simp [mroEntry, h, List.all_map, List.filterMap_map]
  cases c3merge _ (ms ++ [c.bases]) <;> rfl

theorem idxT_eq {st : St} {k : Key} {i : Nat} (h : find st k = some i) : idxT st k = i := by
  simp [idxT, h]

theorem idxT_injOn (st : St) : InjOn (idxT st) (fun k => ∃ i, find st k = some i) := by
  intro a b ⟨i, hi⟩ ⟨j, hj⟩ he
  rw [idxT_eq hi, idxT_eq hj] at he
  exact find_inj st a b i hi (he ▸ hj)

theorem map_some_eq (l : List Key) (m : List Nat) (st : St) (h : m.map some = l.map (find st)) : m = l.map (idxT st) := by
  have : (m.map some).map (·.getD 0) = m := by simp [Function.comp_def]
  rw [← this, h, List.map_map]
  rfl

/-- The table theorem for a prefix `st` of a well-formed table, by induction on the prefix.  Classes are named by their
    position in the whole table, so that its invariant serves at every step. -/
theorem mroTable_prefix : ∀ (st ext : St), Inv (st ++ ext) → ∀ (i : Nat) (c : Cls), st[i]? = some c →
    (mroTable st)[i]? = some (some ((mroK c.key).map (idxT (st ++ ext)))) ∧
      ∀ x ∈ mroK c.key, ∃ j, find (st ++ ext) x = some j := by
  intro st
  induction st using List.reverseRecOn with
  | nil => intro _ _ i c h; simp at h
  | append_singleton st c ih =>
    intro ext hI i c' hc'
    rw [List.append_assoc] at hI ⊢
    have ih' := ih ([c] ++ ext) hI
    generalize hfull : st ++ ([c] ++ ext) = full at hI ih' ⊢
    rw [mroTable_snoc]
    by_cases hi : i < st.length
    · rw [List.getElem?_append_left hi] at hc'
      rw [List.getElem?_append_left (by rwa [mroTable_length])]
      exact ih' i c' hc'
    · have hlen : i = st.length := by
        have := (List.getElem?_eq_some_iff.mp hc').1
        simp at this; omega
      subst hlen
      simp at hc'; subst hc'
      have hget : full[st.length]? = some c := by simp [← hfull]
      have hmem := List.mem_of_getElem? hget
      have hfk := find_of_get full hI.nodup _ c hget
      have hbst := hI.bases c hmem
      have hbases : c.bases = (baseKeys c.key).map (idxT full) := map_some_eq _ _ _ hbst.symm
      -- the bases stand before `c`, their MROs are in the table
      have hlook : ∀ b ∈ baseKeys c.key,
          lookupMro (mroTable st) (idxT full b) = some ((mroK b).map (idxT full)) ∧
          ∀ x ∈ mroK b, ∃ j, find full x = some j := by
        intro b hbm
        obtain ⟨j, hj, hfj⟩ := found_of_map_eq hbst hbm
        obtain ⟨cb, hcb, rfl⟩ := find_key full _ j hfj
        rw [← hfull, List.getElem?_append_left (hI.ordered _ c hget j hj)] at hcb
        obtain ⟨hm, hx⟩ := ih' j cb hcb
        exact ⟨by simp only [lookupMro, idxT_eq hfj, hm], hx⟩
      have hms : c.bases.map (lookupMro (mroTable st))
          = ((baseKeys c.key).map fun b => (mroK b).map (idxT full)).map some := by
        rw [hbases, List.map_map, List.map_map]
        exact List.map_congr_left fun b hbm => (hlook b hbm).1
      have hlists : ((baseKeys c.key).map fun b => (mroK b).map (idxT full)) ++ [c.bases]
          = (keyLists c.key).map (List.map (idxT full)) := by
        simp [keyLists, hbases]
      have hfuel : (((keyLists c.key).map (List.map (idxT full))).map List.length).sum + 1 = fuelOf c.key := by
        simp [fuelOf, List.map_map, Function.comp_def]
      have hS : ∀ l ∈ keyLists c.key, ∀ y ∈ l, ∃ j, find full y = some j := by
        intro l hl y hy
        simp only [keyLists, List.mem_append, List.mem_map, List.mem_singleton] at hl
        rcases hl with ⟨b, hbm, rfl⟩ | rfl
        · exact (hlook b hbm).2 y hy
        · obtain ⟨j, _, hfj⟩ := found_of_map_eq hbst hy
          exact ⟨j, hfj⟩
      have hres := mroK_c3 c.key (hI.good c hmem)
      have hc3 := c3merge_map (idxT_injOn full) (fuelOf c.key) (keyLists c.key) hS
      rw [hres] at hc3
      have hentry : mroEntry (mroTable st) c = some (st.length :: (mroK c.key).tail.map (idxT full)) := by
        rw [mroEntry_of_lookup _ c _ hms, hlists, hfuel, hc3, mroTable_length]
        rfl
      rw [mroK_cons c.key]
      constructor
      · rw [List.getElem?_append_right (by rw [mroTable_length]; omega)]
        simp [mroTable_length, hentry, idxT_eq hfk]
      · intro x hx
        rcases List.mem_cons.mp hx with rfl | hx
        · exact ⟨_, hfk⟩
        · -- elements of the merge result come from the input lists
          obtain ⟨l, hl, hy⟩ := (c3merge_mem _ _ _ hres x).mp hx
          exact hS l hl x hy

theorem mroTable_spec (st : St) (hI : Inv st) (i : Nat) (c : Cls) (hc : st[i]? = some c) :
    ∃ m, (mroTable st)[i]? = some (some m) ∧ m.map some = (mroK c.key).map (find st) := by
  have h := mroTable_prefix st []
  rw [List.append_nil] at h
  obtain ⟨hm, hx⟩ := h hI i c hc
  refine ⟨_, hm, ?_⟩
  rw [List.map_map]
  exact List.map_congr_left fun x hx' => by
    obtain ⟨j, hj⟩ := hx x hx'
    simp [idxT_eq hj, hj]

end CohdlVerif.C13
