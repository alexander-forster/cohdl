import CohdlVerif.Lemmas.C01Fwd
import CohdlVerif.Lemmas.C01Sim

/-! C01 - the simulation claim for awaited sub-coroutines. -/
namespace CohdlVerif.C01

variable {σ : Type} (act : Nat → σ → σ) (cond : Nat → σ → Bool)
variable (prog : Stmt) (Hf : Nat → Blk) (E : Nat → σ → σ × Option Nat) (Rf : Nat → Nat) (Sf : List Nat)

theorem simG_call (b k : Stmt) (l c : Bool) (hb : CSpec (compile b) false true) (hk : CSpec (compile k) l c)
    (fb : FwdG (compile b) false)
    (ihb : SimG act cond prog Hf E Rf Sf b false) (ihk : SimG act cond prog Hf E Rf Sf k l) :
    SimG act cond prog Hf E Rf Sf (.call b k) l := by
  intro st O s m R0 P' hi hsi hL hbad hF hP' hp o ho
  have hO : O ≠ [] := fun h => by subst h; simp at ho
  rw [compile_callG b k O s hO] at hbad hF hP' hp
  have C := cctx b hb fb O s hi
  have hL2 : l = true → (cOut b O s).atStart = false := fun h => C.BW.atStart_false hi.hlt.2 (hL h)
  have Tk := hk.step C.hi2 hL2
  have hL := @Listed.trans_iff _ _ _ _ _ _ _ C.BW Tk
  -- the `break` / `continue` blocks of the body stay listed and are not touched by `k`; its returned blocks are open again
  have hnr : ∀ {y}, y ∈ Outs s [] (cOut b O s) → y < (cOut b O s).next ∧ y ∉ cRes b O s :=
    C.P1.listed_old hi.hlt.1 C.BW
  have CKk := ihk st (cRes b O s) (cOut b O s) m R0 P' C.hi2 (hsi.step C.BW hi.hlt.2) hL2 hbad hF
    (by
      intro y hy hlt hr
      refine ((mem_Outs_trans C.BW Tk).mp (hP' y hy hlt ?_)).resolve_left (fun h => ?_)
      · exact hr.elim (fun h => (C.BW.open_r y h).1.imp_right And.left) (fun h => Or.inr (Nat.le_trans C.BW.next_le h))
      · exact hr.elim (hnr h).2 (Nat.not_le_of_lt (hnr h).1))
    ⟨hp.op, fun o' q hq => hp.li o' q (hL.mpr (Or.inr hq))⟩
  have hbadb : (compile b O (cIn s)).2.bad = false := compile_badMono k (cRes b O s) (cOut b O s) hbad
  have F2 : Fut Hf Rf Sf (cOut b O s) (fun y => y ∈ cRes b O s ∨ P' y) :=
    Fut.back Tk (fun o ho => Or.inl ho) (fun y hy => Or.inl (Or.inr hy)) hF
  have hAr : (cOut b O s).atStart = false → (compile k (cRes b O s) (cOut b O s)).2.atStart = false :=
    fun h => Tk.atStart_false C.hi2.hlt.2 h
  have hbody := ihb (.callF k :: st) O (cIn s) m R0 _ C.hiIn ⟨hsi.states_lt, hsi.root0, hsi.states0⟩ (fun h => nomatch h)
    hbadb (⟨F2.items, F2.closed, F2.root, F2.states⟩ : Fut Hf Rf Sf (compile b O (cIn s)).2 _)
    (by
      intro y hy hlt hr
      rw [← (call_outs b O s).mem_iff]
      rcases hy with hy | hy
      · exact mem_Outs.mpr (Or.inl hy)
      · rcases (mem_Outs_trans C.BW Tk).mp (hP' y hy (Nat.lt_of_lt_of_le hlt Tk.next_le) hr) with h | h
        · exact mem_Outs_nil.mpr (Or.inr h)
        · exact mem_Outs.mpr (Or.inl ((Tk.outs_r y h).old hlt)))
    ⟨?_, ?_⟩ o ho
  · intro suf hsuf s0
    exact SimPt2_pull act cond prog E Sf (RunTo.call_ act cond b k st _ s0) (fun h => h) (hbody suf hsuf s0)
  · intro o' ho'
    exact (CKk o' (mem_cRes.mpr (Or.inl ho'))).pull act cond prog Hf E Rf Sf
      (fun s0 => RunTo.skip_call act cond k st _ s0) (fun h => h)
  · -- `break` / `continue` pass the call frame; a returned block continues with `k`
    intro o' q hq
    rcases hq with ⟨h, rfl⟩ | ⟨h, rfl⟩ | ⟨h, rfl⟩
    · have hr := hnr (mem_Outs.mpr (Or.inr (Or.inl h)))
      have h1 := hp.li o' .brk (hL.mpr (Or.inl (Or.inl ⟨h, rfl⟩)))
      rw [Tk.frame o' hr.1 hr.2] at h1
      exact h1.pull act cond prog Hf E Rf Sf (fun s0 => RunTo.brk_call act cond k st _ _ s0) hAr
    · have hr := hnr (mem_Outs.mpr (Or.inr (Or.inr (Or.inl h))))
      have h1 := hp.li o' .cont (hL.mpr (Or.inl (Or.inr (Or.inl ⟨h, rfl⟩))))
      rw [Tk.frame o' hr.1 hr.2] at h1
      exact h1.pull act cond prog Hf E Rf Sf (fun s0 => RunTo.cont_call act cond k st _ _ s0) hAr
    · exact (CKk o' (mem_cRes.mpr (Or.inr h))).pull act cond prog Hf E Rf Sf
        (fun s0 => RunTo.ret_call act cond k st _ s0) (fun h => h)

end CohdlVerif.C01
