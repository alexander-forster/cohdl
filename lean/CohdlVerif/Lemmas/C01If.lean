import CohdlVerif.Lemmas.C01IfStruct
import CohdlVerif.Lemmas.C01Sim

/-! C01 - the simulation claim for `if` (`iteIter_simG_other` for one open block, `iteLoop_simG`, `simG_ite`), and
  `plain_ite_piece`: an `If` whose branches set no transition is one plain piece, which `plainX` (C01Plain) needs. -/
namespace CohdlVerif.C01

variable {σ : Type} (act : Nat → σ → σ) (cond : Nat → σ → Bool)
variable (prog : Stmt) (Hf : Nat → Blk) (E : Nat → σ → σ × Option Nat) (Rf : Nat → Nat) (Sf : List Nat)
variable (hE : ∀ b s, E b s = execB act cond E (Hf b) s)
include hE

/-- a branch of an `If` in block `b`: translated from `s1` in the empty block `x`, which runs in the state of `b`;
    the reference runs it below a `seq k` frame -/
theorem branch_sim (t k : Stmt) (l : Bool) (ih : SimG act cond prog Hf E Rf Sf t l) (st : List Frame) (m : Nat)
    (R0 : List Nat) (b x : Nat) (s1 : CSt) (hi : Inv s1 [x]) (hsi : SInv s1) (hA : s1.atStart = false)
    (hx : s1.heap x = {}) (hR : Rf x = Rf b) (hbad : (compile t [x] s1).2.bad = false)
    (hA' : (compile t [x] s1).2.atStart = false) (P : Nat → Prop) (hF : Fut Hf Rf Sf (compile t [x] s1).2 P)
    (hP : ∀ y, P y → y < (compile t [x] s1).2.next → (y ∈ [x] ∨ s1.next ≤ y) →
      y ∈ Outs s1 (compile t [x] s1).1 (compile t [x] s1).2)
    (op : ∀ o ∈ (compile t [x] s1).1,
      TailSim2 act cond prog Hf E Rf Sf (lvl Rf R0 m o) o ((compile t [x] s1).2.heap o).items k st false)
    (li : ∀ o q, Listed s1 (compile t [x] s1).2 o q →
      TailSim2 act cond prog Hf E Rf Sf (lvl Rf R0 m o) o ((compile t [x] s1).2.heap o).items q st false) (s0 : σ) :
    SimPt2 act cond prog E Sf (lvl Rf R0 m b) (cur Rf Sf b) (E x s0) t (.seq k :: st) false s0 := by
  have C := ih (.seq k :: st) [x] s1 (lvl Rf R0 m b) [Rf b] P hi hsi (fun _ => hA) hbad hF hP
    ((Prems.seq act cond prog Hf E Rf Sf hA' op li).mono act cond prog Hf E Rf Sf (lvl_rebase Rf R0 m b)) x (by simp)
  rw [hx, hA, ← hR, lvl_self] at C
  exact C.run act cond prog Hf E Rf Sf hE s0

theorem iteIter_simG_other (c : Nat) (t1 e1 k : Stmt) (l : Bool)
    (iht : SimG act cond prog Hf E Rf Sf t1 l) (ihe : SimG act cond prog Hf E Rf Sf e1 l)
    (st : List Frame) (m : Nat) (R0 : List Nat) (b : Nat) (s : CSt) (hb : b < s.next) (hbf : (s.heap b).front = [])
    (X : IterCtx t1 e1 c b s) (hbad4 : (iR4 t1 c b s).2.bad = false) (hbad5 : (iR5 t1 e1 c b s).2.bad = false)
    (P5 : Nat → Prop) (hF5 : Fut Hf Rf Sf (iR5 t1 e1 c b s).2 P5)
    (hP5 : ∀ y, P5 y → y < (iR5 t1 e1 c b s).2.next → (y = b ∨ s.next ≤ y) →
      y ∈ Outs s (mergeAcc [] b s.next (s.next + 1) (iR4 t1 c b s).1 (iR5 t1 e1 c b s).1) (iR5 t1 e1 c b s).2)
    (CK : ∀ o ∈ mergeAcc [] b s.next (s.next + 1) (iR4 t1 c b s).1 (iR5 t1 e1 c b s).1,
      TailSim2 act cond prog Hf E Rf Sf (lvl Rf R0 m o) o ((iR5 t1 e1 c b s).2.heap o).items k st false)
    (L : ∀ o q, Listed s (iR5 t1 e1 c b s).2 o q →
      TailSim2 act cond prog Hf E Rf Sf (lvl Rf R0 m o) o ((iR5 t1 e1 c b s).2.heap o).items q st false)
    (hno : ¬ (anyTrans s.next (iR4 t1 c b s).1 = false ∧ anyTrans (s.next + 1) (iR5 t1 e1 c b s).1 = false)) :
    TailSim2 act cond prog Hf E Rf Sf (lvl Rf R0 m b) b (s.heap b).items (.ite c t1 e1 k) st s.atStart := by
  have ot_o := X.outs_t
  have oe_o := X.outs_e
  have n4 := X.n4
  have n5 := X.n5
  have hL : ∀ {y q}, Listed s (iR5 t1 e1 c b s).2 y q ↔
      Listed (itePre c b s) (iR4 t1 c b s).2 y q ∨ Listed (iR4 t1 c b s).2 (iR5 t1 e1 c b s).2 y q :=
    (Listed.congr (itePre_sameLists c b s)).symm.trans (Listed.trans_iff X.Tt X.Te)
  have hA := mergeAcc_other b s.next (s.next + 1) (iR4 t1 c b s).1 (iR5 t1 e1 c b s).1 hno
  -- where a pending block of this iteration lives
  have hsplit : ∀ y, P5 y → y < (iR5 t1 e1 c b s).2.next → (y = b ∨ s.next ≤ y) →
      y ∈ Outs (itePre c b s) (iR4 t1 c b s).1 (iR4 t1 c b s).2 ∨ y ∈ Outs (iR4 t1 c b s).2 (iR5 t1 e1 c b s).1 (iR5 t1 e1 c b s).2 := by
    intro y hy hlt hr
    rcases mem_Outs_iff.mp (hP5 y hy hlt hr) with h | ⟨q, h⟩
    · exact ((hA y).mp h).imp (fun h => mem_Outs_iff.mpr (Or.inl h)) (fun h => mem_Outs_iff.mpr (Or.inl h))
    · exact (hL.mp h).imp (fun h => h.mem_Outs _) (fun h => h.mem_Outs _)
  have hbA : ¬ P5 b := fun hp => by
    rcases hsplit b hp (by omega) (Or.inl rfl) with h | h
    · have := ot_o b h; omega
    · have := oe_o b h; omega
  have hHb : Hf b = { s.heap b with items := (s.heap b).items ++ [.ite c s.next (s.next + 1)] } := by
    rw [hF5.closed b (by omega) hbA, X.heap_parent hb]
  -- the branch blocks run in the state of `b`
  have hR : ∀ x, x < s.next + 2 → Rf x = (itePre c b s).root x := fun x hx => by
    rw [hF5.root x (by omega), X.Te.root_stable x (by omega), X.Tt.root_stable x hx]
  have hRt : Rf s.next = Rf b := by
    rw [hR _ (by omega), hR b (by omega), itePre_child_root, X.T1.root_stable b hb]
  have hRe : Rf (s.next + 1) = Rf b := by
    rw [hR _ (by omega), hR b (by omega), X.T1.root_stable b hb]
    exact (CSt.newBlock_root_new (s.newBlock (some b)).2 (some b)).trans (CSt.newBlock_root_old s _ (by omega))
  -- the body: what it leaves pending is not touched by the else branch
  have Bt := branch_sim act cond prog Hf E Rf Sf hE t1 k l iht st m R0 b s.next (itePre c b s) X.hi3 X.hsi3 X.hA3
    (itePre_child_heap c b s hb) hRt hbad4 X.hA4 (fun y => y = s.next + 1 ∨ P5 y) (Fut.back X.Te (by simp) (fun y hy => Or.inl (Or.inr hy)) hF5)
    (by
      intro y hy hlt hr
      have hr' : y = s.next ∨ s.next + 2 ≤ y := hr.imp List.mem_singleton.mp id
      have hlt' : y < (iR4 t1 c b s).2.next := hlt
      rcases hy with hy | hy
      · omega
      · rcases hsplit y hy (by omega) (Or.inr (by omega)) with h | h
        · exact h
        · have := oe_o y h; omega)
    (fun o' ho' => by
      have h1 := CK o' ((hA o').mpr (Or.inl ho'))
      have := ot_o o' (mem_Outs.mpr (Or.inl ho'))
      rwa [X.Te.frame o' this.2 (by simp; omega)] at h1)
    (fun o' q hq => by
      have h1 := L o' q (hL.mpr (Or.inl hq))
      have := ot_o o' (hq.mem_Outs _)
      rwa [X.Te.frame o' this.2 (by simp; omega)] at h1)
  have Be := branch_sim act cond prog Hf E Rf Sf hE e1 k l ihe st m R0 b (s.next + 1) (iR4 t1 c b s).2 X.hi4 X.hsi4 X.hA4
    (X.heap_e hb) hRe hbad5 X.hA5 P5 hF5
    (by
      intro y hy hlt hr
      have hr' : y = s.next + 1 ∨ (iR4 t1 c b s).2.next ≤ y := hr.imp List.mem_singleton.mp id
      rcases hsplit y hy hlt (Or.inr (by omega)) with h | h
      · have := ot_o y h; omega
      · exact h)
    (fun o' ho' => CK o' ((hA o').mpr (Or.inr ho'))) (fun o' q hq => L o' q (hL.mpr (Or.inr hq)))
  intro suf hsuf s0
  rw [hHb] at hsuf
  have : suf = [.ite c s.next (s.next + 1)] := by simpa using hsuf.symm
  subst this
  have htl : tailF act cond Hf E b [.ite c s.next (s.next + 1)] s0 =
      if cond c s0 then E s.next s0 else E (s.next + 1) s0 := by
    simp only [tailF, execI, hHb, hbf, lastT, por_none_right, por_none_left]
  rw [htl]
  cases hc : cond c s0 with
  | true => exact SimPt2_pull act cond prog E Sf (RunTo.ite_true act cond c t1 e1 k st _ s0 hc) (fun _ => rfl) (Bt s0)
  | false => exact SimPt2_pull act cond prog E Sf (RunTo.ite_false act cond c t1 e1 k st _ s0 hc) (fun _ => rfl) (Be s0)

/-- an `if` whose branches both end in their own block is one plain piece that ends where `k` begins -/
theorem plain_ite_piece (c : Nat) (t1 e1 k : Stmt)
    (pt : PlainX act cond Hf E Rf Sf t1) (pe : PlainX act cond Hf E Rf Sf e1)
    (b : Nat) (s : CSt) (hb : b < s.next)
    (X : IterCtx t1 e1 c b s) (P5 : Nat → Prop) (hF5 : Fut Hf Rf Sf (iR5 t1 e1 c b s).2 P5)
    (hP5 : ∀ y, P5 y → y < (iR5 t1 e1 c b s).2.next → (y = b ∨ s.next ≤ y) → y = b)
    (hat : anyTrans s.next (iR4 t1 c b s).1 = false) (hae : anyTrans (s.next + 1) (iR5 t1 e1 c b s).1 = false) :
    PlainResQ act cond E k (.ite c t1 e1 k) b s (iR5 t1 e1 c b s).2 := by
  have n4 := X.n4
  have n5 := X.n5
  have F4 : Fut Hf Rf Sf (iR4 t1 c b s).2 (fun y => y = s.next + 1 ∨ P5 y) :=
    Fut.back X.Te (by simp) (fun y hy => Or.inl (Or.inr hy)) hF5
  -- the blocks of the two branches are not pending
  have hnP : ∀ y, s.next ≤ y → y < (iR5 t1 e1 c b s).2.next → ¬ P5 y := fun y h1 h2 hp => by
    have := hP5 y hp h2 (Or.inr h1); omega
  have Pt := (pt s.next (itePre c b s) _ X.hi3 X.hsi3 X.hA3 F4
    (by
      intro y hy hlt hr
      have hr' : y = s.next ∨ s.next + 2 ≤ y := hr
      have hlt' : y < (iR4 t1 c b s).2.next := hlt
      rcases hy with hy | hy
      · omega
      · exact (hnP y (by omega) (by omega) hy).elim)).1 ((anyTrans_false_iff _ _).mp hat).mem
  have Pe := (pe (s.next + 1) (iR4 t1 c b s).2 _ X.hi4 X.hsi4 X.hA4 hF5
    (fun y hy hlt hr => (hnP y (by omega) hlt hy).elim)).1 ((anyTrans_false_iff _ _).mp hae).mem
  obtain ⟨efft, hEt, hRt⟩ := plain_closed act cond Hf E hE (s' := (iR4 t1 c b s).2) Pt
    (congrArg Blk.items (itePre_child_heap c b s hb)) (itePre_child_front c b s)
    (F4.closed _ (by omega) (not_or.mpr ⟨by omega, hnP _ (Nat.le_refl _) (by omega)⟩))
  obtain ⟨effe, hEe, hRe⟩ := plain_closed act cond Hf E hE (s := (iR4 t1 c b s).2) (s' := (iR5 t1 e1 c b s).2) Pe
    (congrArg Blk.items (X.heap_e hb)) (X.hi4.front _ (by simp)) (hF5.closed _ (by omega) (hnP _ (by omega) (by omega)))
  rw [X.hA3, X.hA4] at hRt
  rw [X.hA4, X.hA5] at hRe
  refine ⟨?_, [.ite c s.next (s.next + 1)], fun σ0 => if cond c σ0 then efft σ0 else effe σ0, ?_, fun σ0 => ?_, fun st σ0 => ?_⟩
  · rw [X.heap_parent hb]
  · rw [X.heap_parent hb]
  · simp only [execI]
    cases hc : cond c σ0 <;> simp [hEt, hEe]
  · rw [X.hA5]
    cases hc : cond c σ0 with
    | false =>
      simp only [hc, Bool.false_eq_true, if_false]
      exact (RunTo.ite_false act cond c t1 e1 k st _ σ0 hc).trans act cond
        ((hRe (.seq k :: st) σ0).trans act cond (RunTo.skip_seq act cond k st false _))
    | true =>
      simp only [hc, if_true]
      exact (RunTo.ite_true act cond c t1 e1 k st _ σ0 hc).trans act cond
        ((hRt (.seq k :: st) σ0).trans act cond (RunTo.skip_seq act cond k st false _))

theorem iteLoop_simG (c : Nat) (t1 e1 k : Stmt) (l cf : Bool)
    (ht : CSpec (compile t1) l cf) (he : CSpec (compile e1) l cf) (ft : FwdG (compile t1) l) (fe : FwdG (compile e1) l)
    (bt : BadMono (compile t1)) (be : BadMono (compile e1))
    (iht : SimG act cond prog Hf E Rf Sf t1 l) (ihe : SimG act cond prog Hf E Rf Sf e1 l)
    (pt : PlainX act cond Hf E Rf Sf t1) (pe : PlainX act cond Hf E Rf Sf e1)
    (nt : PendS t1) (ne : PendS e1)
    (st : List Frame) (m : Nat) (R0 : List Nat) (Pend : Nat → Prop) (s0 : CSt) (O0 : List Nat) (hl0 : Hlt s0 O0) :
    ∀ (bs : List Nat) (s : CSt) (acc : List Nat), Step s0 O0 s (bs ++ acc) → FPost s0 (bs ++ acc) s →
      (s.atStart = true → bs = [0]) → SInv s →
      (iteLoop c (compile t1) (compile e1) bs s acc).2.bad = false →
      Fut Hf Rf Sf (iteLoop c (compile t1) (compile e1) bs s acc).2 Pend →
      (∀ y, Pend y → y < (iteLoop c (compile t1) (compile e1) bs s acc).2.next → (y ∈ bs ∨ s.next ≤ y) →
        y ∈ Outs s (iteLoop c (compile t1) (compile e1) bs s acc).1 (iteLoop c (compile t1) (compile e1) bs s acc).2) →
      (∀ o ∈ (iteLoop c (compile t1) (compile e1) bs s acc).1, TailSim2 act cond prog Hf E Rf Sf (lvl Rf R0 m o) o
        ((iteLoop c (compile t1) (compile e1) bs s acc).2.heap o).items k st false) →
      (∀ o q, Listed s (iteLoop c (compile t1) (compile e1) bs s acc).2 o q → TailSim2 act cond prog Hf E Rf Sf (lvl Rf R0 m o) o
        ((iteLoop c (compile t1) (compile e1) bs s acc).2.heap o).items q st false) →
      ∀ b ∈ bs, TailSim2 act cond prog Hf E Rf Sf (lvl Rf R0 m b) b (s.heap b).items (.ite c t1 e1 k) st s.atStart := by
  intro bs
  induction bs with
  | nil => intro s acc _ _ _ _ _ _ _ _ _ b hb; simp at hb
  | cons b bs ih =>
    intro s acc hS hP hs hsi hbad hF hPend CK L b' hb'
    rw [iteLoop_consR] at hbad hF hPend CK L
    have hl : Hlt s (b :: (bs ++ acc)) := hS.hlt hl0
    have hnd : (b :: (bs ++ acc)).Nodup := hP.nodup_open
    have hb : b < s.next := hl.1 b (by simp)
    have hsb : s.atStart = true → b = 0 := fun h => (List.cons.inj (hs h)).1
    have hbn : b ∉ bs := fun h => (List.nodup_cons.mp hnd).1 (List.mem_append_left _ h)
    have X := iterCtxG t1 e1 l cf ht he c b s hb hl.2 hsb hsi
    have T := X.T
    have hn5 := T.next_le
    have hl5 : Hlt (iR5 t1 e1 c b s).2 bs :=
      ⟨fun o ho => by have := hl.1 o (by simp [ho]); omega, by have := hl.2; omega⟩
    obtain ⟨R, hmem, _⟩ := iteLoop_step c (compile t1) (compile e1) ht.br he.br bs
      (iR5 t1 e1 c b s).2 (mergeAcc acc b s.next (s.next + 1) (iR4 t1 c b s).1 (iR5 t1 e1 c b s).1) hl5
      (fun h => by rw [X.hA5] at h; cases h)
    have hrn := R.next_le
    have hL := @Listed.trans_iff _ _ _ _ _ _ _ T R
    have hbad5 : (iR5 t1 e1 c b s).2.bad = false := iteLoop_badMono c _ _ bt be _ _ _ hbad
    -- what this iteration works on is not touched by the rest of the loop
    have hnbs : ∀ y, y = b ∨ s.next ≤ y → y ∉ bs := fun y hr hm => by
      rcases hr with h | h
      · exact hbn (h ▸ hm)
      · have := hl.1 y (by simp [hm]); omega
    have hlist : ∀ y, InR s [b] (iR5 t1 e1 c b s).2 y → y < (iR5 t1 e1 c b s).2.next ∧ y ∉ bs := fun y hy =>
      ⟨InR.lt (by simpa using hb) hn5 hy, hnbs y (hy.1.imp List.mem_singleton.mp And.left)⟩
    rcases List.mem_cons.mp hb' with e | hb'bs
    · subst e
      have F5 : Fut Hf Rf Sf (iR5 t1 e1 c b' s).2 (fun y => y ∈ bs ∨ Pend y) :=
        Fut.back R (fun o ho => Or.inl ho) (fun y hy => Or.inl (Or.inr hy)) hF
      have hP5 : ∀ y, (y ∈ bs ∨ Pend y) → y < (iR5 t1 e1 c b' s).2.next → (y = b' ∨ s.next ≤ y) →
          y ∈ Outs s (mergeAcc [] b' s.next (s.next + 1) (iR4 t1 c b' s).1 (iR5 t1 e1 c b' s).1) (iR5 t1 e1 c b' s).2 := by
        intro y hy hlt hr
        have hold : ¬ InR (iR5 t1 e1 c b' s).2 bs (iteLoop c (compile t1) (compile e1) bs (iR5 t1 e1 c b' s).2
            (mergeAcc acc b' s.next (s.next + 1) (iR4 t1 c b' s).1 (iR5 t1 e1 c b' s).1)).2 y :=
          fun hz => hnbs y hr (hz.old hlt)
        rcases hy with hy | hy
        · exact absurd hy (hnbs y hr)
        · rcases (mem_Outs_trans T R).mp (hPend y hy (by omega) (hr.imp (fun h => by simp [h]) id)) with h | h
          · exact mem_Outs_nil.mpr (Or.inr h)
          · rcases mem_Outs_nil.mp h with h | h
            · rcases hmem y h with h | h
              · rcases (mem_mergeAcc_nil _ _ _ _ _ _ _).mp h with h | h
                · rcases hr with h' | h'
                  · exact absurd (h' ▸ List.mem_append_right _ h) (List.nodup_cons.mp hnd).1
                  · have := hl.1 y (by simp [h]); omega
                · exact mem_Outs_nil.mpr (Or.inl h)
              · exact (hold h).elim
            · exact (hold (R.outs_r y h)).elim
      have CK5 : ∀ o ∈ mergeAcc [] b' s.next (s.next + 1) (iR4 t1 c b' s).1 (iR5 t1 e1 c b' s).1,
          TailSim2 act cond prog Hf E Rf Sf (lvl Rf R0 m o) o ((iR5 t1 e1 c b' s).2.heap o).items k st false := by
        intro o ho
        have hr := mergeAcc_nil_range X hb ho
        have := CK o (iteLoop_acc_sub _ _ _ _ _ _ o ((mem_mergeAcc_nil _ _ _ _ _ _ _).mpr (Or.inr ho)))
        rwa [R.frame o hr.2 (hnbs o hr.1)] at this
      have L5 : ∀ o q, Listed s (iR5 t1 e1 c b' s).2 o q → TailSim2 act cond prog Hf E Rf Sf (lvl Rf R0 m o) o
          ((iR5 t1 e1 c b' s).2.heap o).items q st false := by
        intro o q ho
        have hr := hlist o (T.listed_r ho)
        have := L o q (hL.mpr (Or.inl ho))
        rwa [R.frame o hr.1 hr.2] at this
      by_cases hpl : anyTrans s.next (iR4 t1 c b' s).1 = false ∧ anyTrans (s.next + 1) (iR5 t1 e1 c b' s).1 = false
      · have hAeq := mergeAcc_both b' s.next (s.next + 1) _ _ hpl.1 hpl.2
        have hsl := ite_pend_sameLists nt ne X hpl.1 hpl.2
        rw [hAeq] at hP5 CK5
        rw [show Outs s [b'] (iR5 t1 e1 c b' s).2 = [b'] from Outs_same hsl [b']] at hP5
        have hCK := CK5 b' (by simp)
        rw [← X.hA5] at hCK
        exact TailSim2.of_plain act cond prog Hf E Rf Sf
          (plain_ite_piece act cond Hf E Rf Sf hE c t1 e1 k pt pe b' s hb X _ F5
            (fun y hy hlt hr => by simpa using hP5 y hy hlt hr) hpl.1 hpl.2)
          (fun _ => X.hA5) (F5.items b' (by omega)) hCK
      · exact iteIter_simG_other act cond prog Hf E Rf Sf hE c t1 e1 k l iht ihe st m R0 b' s hb
          (hP.2 b' (mem_Outs.mpr (Or.inl (by simp)))) X
          (be _ _ hbad5) hbad5 _ F5 hP5 CK5 L5 hpl
    · have hAs : s.atStart = false := Bool.eq_false_iff.mpr fun h => by
        rw [(List.cons.inj (hs h)).2] at hb'bs
        cases hb'bs
      obtain ⟨S5, P5, _⟩ := iteIter_fpost c t1 e1 l cf ht he ft fe hl0 b bs acc s hS hP hsb
      have := ih (iR5 t1 e1 c b s).2 _ S5 P5 (fun h => by rw [X.hA5] at h; cases h) X.hsi5
        hbad hF
        (fun y hy hlt hr => ((mem_Outs_trans T R).mp (hPend y hy hlt
            (hr.imp (List.mem_cons_of_mem _) (fun h => by omega)))).resolve_left (fun h => by
          have h1 := hlist y (T.outs_r y (mem_Outs_nil.mpr (Or.inr h)))
          rcases hr with h' | h'
          · exact h1.2 h'
          · omega))
        CK (fun o q ho => L o q (hL.mpr (Or.inr ho))) b' hb'bs
      have hne : b' ≠ b := fun e => hbn (e ▸ hb'bs)
      rwa [T.frame b' (hl.1 b' (by simp [hb'bs])) (by simpa using hne), X.hA5, ← hAs] at this

theorem simG_ite (cc : Nat) (t e k : Stmt) (l c : Bool)
    (ht : CSpec (compile t) l c) (he : CSpec (compile e) l c) (hk : CSpec (compile k) l c)
    (ft : FwdG (compile t) l) (fe : FwdG (compile e) l)
    (bt : BadMono (compile t)) (be : BadMono (compile e)) (bk : BadMono (compile k))
    (iht : SimG act cond prog Hf E Rf Sf t l) (ihe : SimG act cond prog Hf E Rf Sf e l)
    (ihk : SimG act cond prog Hf E Rf Sf k l)
    (pt : PlainX act cond Hf E Rf Sf t) (pe : PlainX act cond Hf E Rf Sf e) (nt : PendS t) (ne : PendS e) :
    SimG act cond prog Hf E Rf Sf (.ite cc t e k) l := by
  intro st O s m R0 P' hi hsi hL hbad hF hP' hp o ho
  have hO : O ≠ [] := fun h => by subst h; simp at ho
  rw [compile_ite] at hF hP' hp hbad
  have hP0 : FPost s (O ++ []) s := FPost.of_same (SameLists.refl s) (by simpa using hi.nodup) (by simpa using hi.front)
  have hS0 : Step s O s (O ++ []) := by simpa using Step.refl s O
  obtain ⟨_, _, hA⟩ := iteLoop_step cc (compile t) (compile e) ht.br he.br O s [] hi.hlt hi.start
  by_cases hr : (retAlways t && retAlways e) = true
  · -- both branches always return: nothing is open after the loop and `k` is not translated
    simp only [hr, if_true] at hF hP' hp hbad
    simp only [Bool.and_eq_true] at hr
    exact iteLoop_simG act cond prog Hf E Rf Sf hE cc t e k l c ht he ft fe bt be iht ihe pt pe nt ne st m R0 P' s O hi.hlt
      O s [] hS0 hP0 hi.start hsi hbad hF hP'
      (by rw [iteLoop_open_nil cc _ _ (retAlways_open_nil t hr.1) (retAlways_open_nil e hr.2) O s []]; simp)
      (by intro o' q hq; have := hp.li o' q hq; rwa [hA hO] at this) o ho
  simp only [hr, Bool.false_eq_true, if_false] at hF hP' hp hbad
  obtain ⟨PL, SL⟩ := iteLoop_fpost cc t e l c ht he ft fe s O hi.hlt O s [] hS0 hP0 hi.start
  -- the result of the loop by name; `hret`, `hse` fold it back where `iteLoop_simG` is applied
  generalize hret : (iteLoop cc (compile t) (compile e) O s []).1 = ret at *
  generalize hse : (iteLoop cc (compile t) (compile e) O s []).2 = se at *
  have hAe : se.atStart = false := hA hO
  have hie : Inv se ret := ⟨SL.hlt hi.hlt, fun h => (by rw [hAe] at h; cases h), PL.nodup_open,
    fun o ho => PL.2 o (mem_Outs.mpr (Or.inl ho))⟩
  have hsie := hsi.step SL hi.hlt.2
  have Tk := hk.step hie (fun _ => hAe)
  have hAr := Tk.atStart_false hie.hlt.2 hAe
  have hn := SL.next_le
  have hnk := Tk.next_le
  have hL := @Listed.trans_iff _ _ _ _ _ _ _ SL Tk
  -- a block listed by the loop is old for the continuation and not open there
  have hold : ∀ {y}, y ∈ Outs s [] se → y < se.next ∧ y ∉ ret := PL.listed_old hi.hlt.1 SL
  have CKk := ihk st ret se m R0 P' hie hsie (fun _ => hAe) hbad hF
    (fun y hy hlt hr => ((mem_Outs_trans SL Tk).mp (hP' y hy hlt (hr.elim
        (fun h => (SL.open_r y h).1.imp id And.left) (fun h => Or.inr (by omega))))).resolve_left (fun h => by
      have := hold h
      rcases hr with h' | h'
      · exact this.2 h'
      · omega))
    ⟨hp.op, fun o' q hq => hp.li o' q (hL.mpr (Or.inr hq))⟩
  rw [hAe] at CKk
  have := iteLoop_simG act cond prog Hf E Rf Sf hE cc t e k l c ht he ft fe bt be iht ihe pt pe nt ne st m R0
    (fun y => y ∈ ret ∨ P' y) s O hi.hlt O s [] hS0 hP0 hi.start hsi
    (by rw [hse]; exact bk _ _ hbad)
    (by rw [hse]; exact Fut.back Tk (fun o ho => Or.inl ho) (fun y hy => Or.inl (Or.inr hy)) hF)
    (by
      rw [hse, hret]
      intro y hy hlt hr
      -- pending after `k` and old for it: listed by the loop, or open after the loop
      exact mem_Outs_nil.mpr (hy.elim Or.inl (fun hy => ((mem_Outs_trans SL Tk).mp (hP' y hy (by omega) hr)).symm.imp_left
        (fun h => (Tk.outs_r y h).old hlt))))
    (by rw [hse, hret]; exact CKk)
    (by
      rw [hse]; intro o' q hq
      have h1 := hp.li o' q (hL.mpr (Or.inl hq))
      have := hold (hq.mem_Outs _)
      rwa [hAr, Tk.frame o' this.1 this.2] at h1)
  exact this o ho

end CohdlVerif.C01
