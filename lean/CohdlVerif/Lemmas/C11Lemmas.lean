import CohdlVerif.Model.C11

/-!
  C11 - what a compilation leaves behind: `run_inv` is the induction principle for every statement of that kind,
  the frame invariant `Inv F g` ("every observable scratch stack holds one entry per open frame of its kind") its
  main instance on the repaired tree.
-/
namespace CohdlVerif.C11

/-- every observable scratch piece is at its rest value, no stale instantiation, no registered info -/
def Clean (g : G) : Prop :=
  (∀ k, masked k = false → g.s k = []) ∧ g.inst = [] ∧ g.reg = []

/-- a cache is sound when every entry holds the value computed from its key -/
def CacheSound (c : List (Nat × Nat)) : Prop := ∀ e ∈ c, e.2 = defOf e.1

def CachesSound (g : G) : Prop := CacheSound g.fnCache ∧ CacheSound g.tyCache

theorem cacheSound_nil : CacheSound [] := fun _ h => nomatch h

theorem clean_init : Clean G.init := ⟨fun _ _ => rfl, rfl, rfl⟩

@[simp] theorem upd_same (s k v) : upd s k v k = v := by simp [upd]
theorem upd_other (s k v j) (h : j ≠ k) : upd s k v j = s j := by simp [upd, h]

@[simp] theorem push_s (k p g) : (push k p g).s = upd g.s k (p :: g.s k) := rfl
@[simp] theorem push_inst (k p g) : (push k p g).inst = g.inst := rfl
@[simp] theorem push_reg (k p g) : (push k p g).reg = g.reg := rfl
@[simp] theorem pop_s (k g) : (pop k g).s = upd g.s k (g.s k).tail := rfl
@[simp] theorem pop_inst (k g) : (pop k g).inst = g.inst := rfl
@[simp] theorem pop_reg (k g) : (pop k g).reg = g.reg := rfl

/-- `P` relates the open frames to the state; the conclusion holds wherever the compilation stops -/
theorem run_inv {cfg : Cfg} {perm : List Nat → List Nat} {P : List Kind → G → Prop} {Q : G → Prop}
    (henter : ∀ {F g k a n g1 t k1}, enter k a n g = .ok (g1, t, k1) → P F g → P (k1 :: F) g1)
    (hact : ∀ {F g a g1 t}, act cfg perm a g = .ok (g1, t) → P F g → P F g1)
    (hok : ∀ {F g} k, P (k :: F) g → P F (exitOk k g))
    (hexc : ∀ {F g} k, P (k :: F) g → P F (exitExc cfg k g))
    (hend : ∀ g, P [] g → Q (age g)) (evs : List Ev) :
    ∀ F n g out, P F g → Q (run cfg perm evs F n g out).2 := by
  have unw : ∀ F g, P F g → Q (age (unwind cfg F g)) := by
    intro F
    induction F with
    | nil => exact hend
    | cons k F ih => exact fun g h => ih _ (hexc k h)
  induction evs with
  | nil =>
    intro F
    induction F with
    | nil => exact fun _ g _ h => hend g h
    | cons k F ih => exact fun n g out h => ih n _ out (hok k h)
  | cons ev evs ih =>
    intro F n g out h
    cases ev with
    | fail => exact unw F g h
    | exit =>
      cases F with
      | nil => exact ih [] _ g out h
      | cons k F => exact ih F _ _ out (hok k h)
    | enter k a =>
      simp only [run]
      cases he : enter k a n g with
      | error e => exact unw F g h
      | ok r => exact ih _ _ _ _ (henter he h)
    | act a =>
      simp only [run]
      cases he : act cfg perm a g with
      | error e => exact unw F g h
      | ok r => exact ih _ _ _ _ (hact he h)

theorem run_congr_act {cfg : Cfg} {p q : List Nat → List Nat} (hact : ∀ a g, act cfg p a g = act cfg q a g)
    (evs : List Ev) : ∀ F n g out, run cfg p evs F n g out = run cfg q evs F n g out := by
  induction evs with
  | nil => exact fun _ _ _ _ => rfl
  | cons ev evs ih =>
    intro F n g out
    cases ev with
    | fail => rfl
    | exit => cases F <;> exact ih _ _ _ _
    | enter k a =>
      simp only [run]
      cases enter k a n g with
      | error e => rfl
      | ok r => exact ih _ _ _ _
    | act a =>
      simp only [run, hact]
      cases act cfg q a g with
      | error e => rfl
      | ok r => exact ih _ _ _ _

/-- `ctx` is a register, not a stack: entering overwrites it, leaving clears it, so all that is known is that it
    is empty while no `ctx` frame is open -/
def Depth (F : List Kind) (s : Kind → List (List Nat)) : Prop :=
  (∀ k, masked k = false → k ≠ .ctx → (s k).length = F.count k) ∧ (F.count .ctx = 0 → s .ctx = [])

theorem depth_push {F : List Kind} {s : Kind → List (List Nat)} {k : Kind} (p : List Nat) (hk : k ≠ .ctx)
    (h : Depth F s) : Depth (k :: F) (upd s k (p :: s k)) := by
  refine ⟨fun j hj hjc => ?_, fun hc => ?_⟩
  · by_cases e : j = k
    · subst e; simp [h.1 j hj hjc]
    · rw [upd_other _ _ _ _ e, List.count_cons_of_ne (Ne.symm e)]; exact h.1 j hj hjc
  · rw [List.count_cons_of_ne hk] at hc
    rw [upd_other _ _ _ _ (Ne.symm hk)]; exact h.2 hc

theorem depth_pop {F : List Kind} {s : Kind → List (List Nat)} {k : Kind} (hk : k ≠ .ctx)
    (h : Depth (k :: F) s) : Depth F (upd s k (s k).tail) := by
  refine ⟨fun j hj hjc => ?_, fun hc => ?_⟩
  · have := h.1 j hj hjc
    by_cases e : j = k
    · subst e; simp [this]
    · rwa [upd_other _ _ _ _ e, ← List.count_cons_of_ne (Ne.symm e)]
  · rw [upd_other _ _ _ _ (Ne.symm hk)]
    exact h.2 (by rwa [List.count_cons_of_ne hk])

theorem depth_masked {F : List Kind} {s : Kind → List (List Nat)} {k : Kind} (hm : masked k = true)
    (h : Depth (k :: F) s) : Depth F s := by
  refine ⟨fun j hj hjc => ?_, fun hc => h.2 ?_⟩
  · have e : k ≠ j := by intro e; subst e; simp [hm] at hj
    rw [← List.count_cons_of_ne e]; exact h.1 j hj hjc
  · rwa [List.count_cons_of_ne (by intro e; subst e; simp [masked] at hm)]

theorem depth_ctx {F F' : List Kind} {s : Kind → List (List Nat)} {v : List (List Nat)}
    (hF : ∀ j, j ≠ .ctx → F'.count j = F.count j) (hv : F'.count .ctx = 0 → v = []) (h : Depth F s) :
    Depth F' (upd s .ctx v) :=
  ⟨fun j hj hjc => by rw [upd_other _ _ _ _ hjc, hF j hjc]; exact h.1 j hj hjc, fun hc => by simp [hv hc]⟩

/-- every `arch` frame has a `conv` frame below it -/
def ArchOk : List Kind → Prop
  | [] => True
  | k :: F => (k = .arch → F.count .conv ≠ 0) ∧ ArchOk F

theorem ArchOk.count_arch : ∀ {F : List Kind}, ArchOk F → F.count .conv = 0 → F.count .arch = 0
  | [], _, _ => rfl
  | k :: F, h, hc => by
    by_cases kc : k = .conv
    · subst kc; simp at hc
    · rw [List.count_cons_of_ne kc] at hc
      by_cases ka : k = .arch
      · exact absurd hc (h.1 ka)
      · rw [List.count_cons_of_ne ka]
        exact h.2.count_arch hc

/-- the entity class of an `arch` frame `[0, n, e]` -/
abbrev archClass (p : List Nat) : Nat := p.getD 2 0

structure Inv (F : List Kind) (g : G) : Prop where
  depth : Depth F g.s
  inst : ∀ e ∈ g.inst, e ∈ g.reg ∨ ∃ p ∈ g.s .arch, archClass p = e
  reg : F.count .conv = 0 → g.reg = []
  archOk : ArchOk F

theorem Inv.arch_nil {F : List Kind} {g : G} (h : Inv F g) (hc : F.count .conv = 0) : g.s .arch = [] :=
  List.length_eq_zero_iff.mp
    ((h.depth.1 .arch rfl (by decide)).trans (h.archOk.count_arch hc))

theorem Inv.conv_length {F : List Kind} {g : G} (h : Inv F g) : (g.s .conv).length = F.count .conv :=
  h.depth.1 .conv rfl (by decide)

theorem Inv.inst_nil {F : List Kind} {g : G} (h : Inv F g) (hc : F.count .conv = 0) : g.inst = [] := by
  refine List.eq_nil_iff_forall_not_mem.mpr fun e he => ?_
  rcases h.inst e he with hr | ⟨p, hp, _⟩
  · rw [h.reg hc] at hr
    cases hr
  · rw [h.arch_nil hc] at hp
    cases hp

theorem clean_of_inv {g : G} (h : Inv [] g) : Clean g := by
  refine ⟨fun k hk => ?_, h.inst_nil rfl, h.reg rfl⟩
  by_cases hc : k = .ctx
  · subst hc
    exact h.depth.2 rfl
  · exact List.length_eq_zero_iff.mp (h.depth.1 k hk hc)

theorem inv_of_clean {g : G} (h : Clean g) : Inv [] g := by
  obtain ⟨hs, hi, hr⟩ := h
  refine ⟨⟨fun k hk _ => by simp [hs k hk], fun _ => hs .ctx rfl⟩, by simp [hi], fun _ => hr, trivial⟩

theorem Inv.inst_of {F : List Kind} {g g1 : G} (h : Inv F g) (ha : g1.s .arch = g.s .arch)
    (hi : g1.inst = g.inst) (hr : g1.reg = g.reg) : ∀ e ∈ g1.inst, e ∈ g1.reg ∨ ∃ p ∈ g1.s .arch, archClass p = e := by
  rw [ha, hi, hr]; exact h.inst

/-- what every step of a compilation keeps: the class-level reserved names, and the soundness of the caches -/
def Static (g g1 : G) : Prop := g1.reserved = g.reserved ∧ (CachesSound g → CachesSound g1)

theorem Static.trans {g g1 g2 : G} (h : Static g g1) (h' : Static g1 g2) : Static g g2 :=
  ⟨h'.1.trans h.1, fun hs => h'.2 (h.2 hs)⟩

/-- a step that leaves the stacks and the marks of the entity classes alone -/
def Frame (g g1 : G) : Prop := g1.s = g.s ∧ g1.inst = g.inst ∧ g1.reg = g.reg ∧ Static g g1

theorem inv_congr {F : List Kind} {g g1 : G} (hf : Frame g g1) (h : Inv F g) : Inv F g1 :=
  ⟨by rw [hf.1]; exact h.depth, h.inst_of (by rw [hf.1]) hf.2.1 hf.2.2.1, by rw [hf.2.2.1]; exact h.reg, h.archOk⟩

theorem inv_open {F : List Kind} {g : G} {k : Kind} {v : List (List Nat)} (h2 : k ≠ .arch) (h3 : k ≠ .conv)
    (hd : Depth (k :: F) (upd g.s k v)) (h : Inv F g) : Inv (k :: F) { g with s := upd g.s k v } :=
  ⟨hd, h.inst_of (upd_other _ _ _ _ (Ne.symm h2)) rfl rfl,
    fun hc => h.reg (by rwa [List.count_cons_of_ne h3] at hc), ⟨fun e => absurd e h2, h.archOk⟩⟩

theorem inv_close {F : List Kind} {g : G} {k : Kind} {v : List (List Nat)} (h2 : k ≠ .arch) (h3 : k ≠ .conv)
    (hd : Depth F (upd g.s k v)) (h : Inv (k :: F) g) : Inv F { g with s := upd g.s k v } :=
  ⟨hd, h.inst_of (upd_other _ _ _ _ (Ne.symm h2)) rfl rfl,
    fun hc => h.reg (by rwa [List.count_cons_of_ne h3]), h.archOk.2⟩

theorem inv_push {F : List Kind} {g : G} (k : Kind) (p : List Nat)
    (h1 : k ≠ .ctx) (h2 : k ≠ .arch) (h3 : k ≠ .conv) (h : Inv F g) : Inv (k :: F) (push k p g) :=
  inv_open h2 h3 (depth_push p h1 h.depth) h

theorem inv_drop_masked {F : List Kind} {g : G} (k : Kind) (hm : masked k = true)
    (h : Inv (k :: F) g) : Inv F g :=
  ⟨depth_masked hm h.depth, h.inst,
    fun hc => h.reg (by rwa [List.count_cons_of_ne (by intro e; subst e; simp [masked] at hm)]),
    h.archOk.2⟩

/-- a conversion starts outside any other: nothing is registered and no architecture runs, so the invariant
    leaves no class marked, and clearing `reg` orphans none -/
theorem inv_enter_conv {F : List Kind} {g : G} (n : Nat) (hc : g.s .conv = []) (h : Inv F g) :
    Inv (.conv :: F) { push .conv [0, n] g with reg := [] } := by
  have hcnt : F.count .conv = 0 := by
    rw [← h.conv_length, hc]
    rfl
  refine ⟨depth_push _ (by decide) h.depth, fun e he => ?_, fun _ => rfl,
    ⟨fun e => absurd e (by decide), h.archOk⟩⟩
  rw [show (push .conv [0, n] g).inst = [] from h.inst_nil hcnt] at he
  cases he

/-- leaving the conversion un-marks exactly the registered classes; what stays marked belongs to an architecture
    that is still running -/
theorem inv_exit_conv {F : List Kind} {g : G} (h : Inv (.conv :: F) g) : Inv F (exitOk .conv g) := by
  refine ⟨depth_pop (by decide) h.depth, fun e he => ?_, fun _ => rfl, h.archOk.2⟩
  have he : e ∈ g.inst ∧ (!g.reg.contains e) = true := List.mem_filter.mp he
  rcases h.inst e he.1 with hr | hp
  · rw [List.contains_iff_mem.mpr hr] at he
    cases he.2
  · exact Or.inr (by rwa [show (exitOk .conv g).s .arch = g.s .arch from
      upd_other g.s .conv (g.s .conv).tail .arch (by decide)])

theorem inv_enter_arch {F : List Kind} {g : G} (n e : Nat) (d : List (Nat × Nat)) (hc : g.s .conv ≠ [])
    (h : Inv F g) : Inv (.arch :: F) { push .arch [0, n, e] g with inst := e :: g.inst, dyn := d } := by
  have hcnt : F.count .conv ≠ 0 := fun h0 => hc (List.length_eq_zero_iff.mp (h.conv_length.trans h0))
  refine ⟨depth_push _ (by decide) h.depth, fun e' he => ?_,
    fun hc2 => absurd (by rwa [List.count_cons_of_ne (by decide)] at hc2) hcnt, ⟨fun _ => hcnt, h.archOk⟩⟩
  have ha : (push .arch [0, n, e] g).s .arch = [0, n, e] :: g.s .arch := upd_same g.s .arch _
  rw [show ({ push .arch [0, n, e] g with inst := e :: g.inst, dyn := d } : G).s .arch = _ from ha]
  rcases List.mem_cons.mp he with rfl | he
  · exact Or.inr ⟨_, List.mem_cons_self, rfl⟩
  · rcases h.inst e' he with hr | ⟨p, hp, hpe⟩
    · exact Or.inl hr
    · exact Or.inr ⟨p, List.mem_cons_of_mem _ hp, hpe⟩

/-- on both exits of an architecture the entry `p` is popped; `inst'`/`reg'` are what the exit makes of the marks:
    the class of `p` has to be accounted for, registered (normal exit) or un-marked (exception, repaired tree) -/
theorem inv_exit_arch {F : List Kind} {g : G} {p : List Nat} {ps : List (List Nat)} {inst' reg' : List Nat}
    (hs : g.s .arch = p :: ps) (hi : ∀ e ∈ inst', e ∈ g.inst ∧ (e = archClass p → e ∈ reg'))
    (hr : ∀ e ∈ g.reg, e ∈ reg') (hr0 : g.reg = [] → F.count .conv = 0 → reg' = [])
    (h : Inv (.arch :: F) g) : Inv F { pop .arch g with inst := inst', reg := reg' } := by
  refine ⟨depth_pop (by decide) h.depth, fun e he => ?_, fun hc => ?_, h.archOk.2⟩
  · rcases h.inst e (hi e he).1 with hr' | ⟨q, hq, hqe⟩
    · exact Or.inl (hr e hr')
    · rw [hs] at hq
      rcases List.mem_cons.mp hq with rfl | hq
      · exact Or.inl ((hi e he).2 hqe.symm)
      · exact Or.inr ⟨q, by simp [hs, hq], hqe⟩
  · exact hr0 (h.reg (by rwa [List.count_cons_of_ne (by decide)])) hc

theorem inv_exitOk {F : List Kind} {g : G} (k : Kind) (h : Inv (k :: F) g) : Inv F (exitOk k g) := by
  unfold exitOk
  -- the arms of `exitOk`: conv, arch, ctx, any other kind
  split
  · exact inv_exit_conv h
  · split
    · rename_i p ps hs
      exact inv_exit_arch hs (fun e he => ⟨he, fun h => by simp [h]⟩) (fun e he => by simp [he])
        (fun _ hc => absurd hc (h.archOk.1 rfl)) h
    · rename_i hs
      have := h.depth.1 .arch rfl (by decide)
      simp [hs] at this
  · exact inv_close (by decide) (by decide)
      (depth_ctx (fun j hj => (List.count_cons_of_ne (Ne.symm hj)).symm) (fun _ => rfl) h.depth) h
  next hconv harch hctx => exact inv_close harch hconv (depth_pop hctx h.depth) h

theorem restoresOnExc_fixed (k : Kind) : restoresOnExc Cfg.fixed k = !masked k := by cases k <;> rfl

theorem inv_exitExc {F : List Kind} {g : G} (k : Kind) (h : Inv (k :: F) g) : Inv F (exitExc Cfg.fixed k g) := by
  unfold exitExc
  split
  · split
    · rename_i p ps hs
      refine inv_exit_arch hs (fun e he => ?_) (fun e he => he) (fun hr _ => hr) h
      rw [List.mem_filter, bne_iff_ne] at he
      exact ⟨he.1, fun h => absurd h he.2⟩
    · rename_i hs
      have := h.depth.1 .arch rfl (by decide)
      simp [hs] at this
  · rw [restoresOnExc_fixed]
    cases hm : masked k
    · exact inv_exitOk k h
    · exact inv_drop_masked k hm h

theorem mkPrefix_frame {p : Nat} {g g1 : G} {str : List Nat} (h : mkPrefix p g = some (g1, str)) : Frame g g1 := by
  unfold mkPrefix at h
  split at h
  · cases h
  · cases h
    split <;> exact ⟨rfl, rfl, rfl, rfl, id⟩

/-- the forms a successful `enter` takes -/
inductive Entered (a : List Nat) (n : Nat) (g : G) : Kind → G → Prop
  | conv : g.s .conv = [] → Entered a n g .conv { push .conv [0, n] g with reg := [] }
  | arch : g.s .conv ≠ [] → Entered a n g .arch
      { push .arch [0, n, a.headD 0] g with
        inst := a.headD 0 :: g.inst, dyn := g.dyn.filter (fun q => q.1 != a.headD 0) }
  | ctx : Entered a n g .ctx { g with s := upd g.s .ctx [a] }
  | pfx {g2 : G} {str : List Nat} : mkPrefix (a.headD 0) g = some (g2, str) → Entered a n g .pfx (push .pfx str g2)
  | push {k : Kind} (p : List Nat) : k ≠ .ctx → k ≠ .arch → k ≠ .conv → Entered a n g k (push k p g)

theorem entered_arch {g g1 : G} {k1 : Kind} {a : List Nat} {n : Nat} {t : List Tok}
    (h : enter .arch a n g = .ok (g1, t, k1)) : Entered a n g k1 g1 := by
  simp only [enter] at h
  split at h
  · cases h
  · rename_i hc
    split at h
    · cases h
      exact .push _ (by decide) (by decide) (by decide)
    · cases h
      exact .arch hc

theorem entered {g g1 : G} {k k1 : Kind} {a : List Nat} {n : Nat} {t : List Tok}
    (h : enter k a n g = .ok (g1, t, k1)) : Entered a n g k1 g1 := by
  unfold enter at h
  -- the arms of `enter`: conv, arch, archReuse, blk, ctx, pfx, sm, scope, any other kind
  split at h
  · split at h
    · cases h
    · rename_i hc
      cases h
      exact .conv (by simpa using hc)
  · exact entered_arch h
  · exact entered_arch h
  · cases h
    exact .push _ (by decide) (by decide) (by decide)
  · cases h
    exact .ctx
  · split at h
    · cases h
    · rename_i hm
      cases h
      exact .pfx hm
  · split at h
    · cases h
    · cases h
      exact .push _ (by decide) (by decide) (by decide)
  · cases h
    exact .push _ (by decide) (by decide) (by decide)
  next hconv harch _ _ hctx _ _ _ =>
    cases h
    exact .push _ hctx harch hconv

theorem inv_enter {F : List Kind} {g g1 : G} {k k1 : Kind} {a : List Nat} {n : Nat} {t : List Tok}
    (he : enter k a n g = .ok (g1, t, k1)) (h : Inv F g) : Inv (k1 :: F) g1 := by
  cases entered he with
  | conv hc => exact inv_enter_conv _ hc h
  | arch hc => exact inv_enter_arch _ _ _ hc h
  | ctx =>
    exact inv_open (by decide) (by decide)
      (depth_ctx (fun j hj => List.count_cons_of_ne (Ne.symm hj)) (fun hc => by simp at hc) h.depth) h
  | pfx hm =>
    exact inv_push _ _ (by decide) (by decide) (by decide) (inv_congr (mkPrefix_frame hm) h)
  | push p h1 h2 h3 => exact inv_push _ p h1 h2 h3 h

theorem cacheGet_sound {c : List (Nat × Nat)} (k : Nat) (h : CacheSound c) :
    (cacheGet c k).1 = defOf k ∧ CacheSound (cacheGet c k).2 := by
  unfold cacheGet
  split
  · rename_i e he
    have hk := List.find?_some he
    simp only [beq_iff_eq] at hk
    exact ⟨by rw [h e (List.mem_of_find?_eq_some he), hk], h⟩
  · refine ⟨rfl, fun e he => ?_⟩
    rcases List.mem_cons.mp he with rfl | he
    · rfl
    · exact h e he

theorem act_frame {cfg : Cfg} {perm : List Nat → List Nat} {a : Act} {g g1 : G} {t : List Tok}
    (h : act cfg perm a g = .ok (g1, t)) : Frame g g1 := by
  cases a
  case fn f =>
    cases h
    exact ⟨rfl, rfl, rfl, rfl, fun hs => ⟨(cacheGet_sound f hs.1).2, hs.2⟩⟩
  case ty t =>
    cases h
    exact ⟨rfl, rfl, rfl, rfl, fun hs => ⟨hs.1, (cacheGet_sound t hs.2).2⟩⟩
  case ifExpr | libs | mem | emit =>
    cases h
    exact ⟨rfl, rfl, rfl, rfl, id⟩
  -- the other actions look at a stack first and may fail
  all_goals
    simp only [act] at h
    repeat' split at h
    all_goals cases h
    all_goals exact ⟨rfl, rfl, rfl, rfl, id⟩

theorem inv_act {cfg : Cfg} {perm : List Nat → List Nat} {a : Act} {F : List Kind} {g g1 : G} {t : List Tok}
    (he : act cfg perm a g = .ok (g1, t)) (h : Inv F g) : Inv F g1 :=
  inv_congr (act_frame he) h

theorem clean_age {g : G} (h : Clean g) : Clean (age g) := by
  obtain ⟨hs, hi, hr⟩ := h
  refine ⟨fun k hk => ?_, hi, hr⟩
  simp only [age]
  split <;> simp [hs k hk]

theorem insertSorted_perm (x : Nat) (l : List Nat) : (insertSorted x l).Perm (x :: l) := by
  induction l with
  | nil => simp [insertSorted]
  | cons y ys ih =>
    simp only [insertSorted]
    split
    · exact List.Perm.refl _
    · exact (List.Perm.cons y ih).trans (List.Perm.swap x y ys)

theorem isort_perm (l : List Nat) : (isort l).Perm l := by
  induction l with
  | nil => simp [isort]
  | cons x xs ih => exact (insertSorted_perm x _).trans (List.Perm.cons x ih)

theorem insertSorted_sorted (x : Nat) (l : List Nat) (h : l.Pairwise (· ≤ ·)) :
    (insertSorted x l).Pairwise (· ≤ ·) := by
  induction l with
  | nil => simp [insertSorted]
  | cons y ys ih =>
    simp only [insertSorted]
    rw [List.pairwise_cons] at h
    split
    · rename_i hxy
      exact List.pairwise_cons.mpr
        ⟨List.forall_mem_cons.mpr ⟨hxy, fun z hz => Nat.le_trans hxy (h.1 z hz)⟩, List.pairwise_cons.mpr h⟩
    · rename_i hxy
      refine List.pairwise_cons.mpr ⟨fun z hz => ?_, ih h.2⟩
      rcases List.mem_cons.mp ((insertSorted_perm x ys).mem_iff.mp hz) with rfl | hz
      · exact Nat.le_of_not_le hxy
      · exact h.1 z hz

theorem isort_sorted (l : List Nat) : (isort l).Pairwise (· ≤ ·) := by
  induction l with
  | nil => simp [isort]
  | cons x xs ih => exact insertSorted_sorted x _ ih

/-- sorting removes the dependence on the iteration order of the set -/
theorem isort_eq_of_perm {l₁ l₂ : List Nat} (h : l₁.Perm l₂) : isort l₁ = isort l₂ :=
  List.Perm.eq_of_pairwise (fun _ _ _ _ h1 h2 => Nat.le_antisymm h1 h2) (isort_sorted l₁) (isort_sorted l₂)
    ((isort_perm l₁).trans (h.trans (isort_perm l₂).symm))

end CohdlVerif.C11
