import CohdlVerif.Model.C10

/-! C10 - helper lemmas: closed forms of the loops of `bind_args` and of the comparison loop; agreement of the
    patched operator dispatch with CPython's -/
namespace CohdlVerif.C10

theorem lookup_eq_none_iff (n : Name) (kw : Kw) : lookup n kw = none ↔ ∀ kv ∈ kw, kv.1 ≠ n := by
  induction kw with
  | nil => exact ⟨fun _ _ h => (nomatch h), fun _ => rfl⟩
  | cons hd t ih =>
    obtain ⟨k, v⟩ := hd
    rw [lookup, List.forall_mem_cons]
    split
    next hk => exact ⟨fun h => (nomatch h), fun h => absurd hk h.1⟩
    next hk => exact ih.trans ⟨fun h => ⟨hk, h⟩, fun h => h.2⟩

theorem lookup_isSome_iff (n : Name) (kw : Kw) : (lookup n kw).isSome = true ↔ ∃ kv ∈ kw, kv.1 = n := by
  rw [Option.isSome_iff_ne_none, Ne, lookup_eq_none_iff]
  simp only [ne_eq, Classical.not_forall, Decidable.not_not, exists_prop]

theorem lookup_filter (n : Name) (kw : Kw) (P : Name → Bool) (h : P n = true) :
    lookup n (kw.filter fun kv => P kv.1) = lookup n kw := by
  induction kw with
  | nil => rfl
  | cons hd t ih =>
    obtain ⟨k, v⟩ := hd
    by_cases hk : k = n
    · subst hk; simp [List.filter, h, lookup]
    · by_cases hp : P k = true <;> simp [List.filter, hp, lookup, hk, ih]

theorem lookup_erase_ne (a b : Name) (kw : Kw) (h : a ≠ b) : lookup a (erase b kw) = lookup a kw := by
  unfold erase
  have := lookup_filter a kw (fun k => decide (k ≠ b)) (by simp [h])
  simpa using this

theorem fill_congr (f g : Name → Option Val) (ps : List Name) (vs : List Val)
    (h : ∀ p ∈ ps, f p = g p) : fill f ps vs = fill g ps vs := by
  induction ps generalizing vs with
  | nil => cases vs <;> rfl
  | cons p ps ih =>
    have ih' := fun vs => ih vs (fun q hq => h q (List.mem_cons_of_mem _ hq))
    cases vs with
    | nil => simp only [fill, h p (List.mem_cons_self), ih']
    | cons v vs => simp only [fill, ih']

theorem posonlyLoop_eq (s : Sig) (kw : Kw) (ps : List Name) (pos : List Val) :
    posonlyLoop s kw ps pos =
      if ps.any fun p => (lookup p kw).isSome && s.kwarg.isNone then none
      else (fill (fun p => lookup p s.defaults) ps pos).map fun e => (e, pos.drop ps.length) := by
  induction ps generalizing pos with
  | nil => rfl
  | cons p ps ih =>
    rw [List.any_cons]
    cases hg : (lookup p kw).isSome && s.kwarg.isNone
    case true => simp only [posonlyLoop, hg, Bool.true_or, if_true]
    case false =>
      rw [Bool.false_or]
      cases pos with
      | cons a rest =>
        simp only [posonlyLoop, hg, fill, ih, List.length_cons, List.drop_succ_cons, Bool.false_eq_true, if_false]
        split
        · rfl
        · cases fill (fun p => lookup p s.defaults) ps rest <;> rfl
      | nil =>
        cases hD : lookup p s.defaults with
        | none => simp only [posonlyLoop, hg, hD, fill, Bool.false_eq_true, Option.map_none, ite_self]
        | some d =>
          simp only [posonlyLoop, hg, hD, fill, ih, List.drop_nil, Bool.false_eq_true, if_false]
          split
          · rfl
          · cases fill (fun p => lookup p s.defaults) ps [] <;> rfl

@[simp] theorem firstOf_some (v : Val) (y : Option Val) : firstOf (some v) y = some v := rfl
@[simp] theorem firstOf_none (y : Option Val) : firstOf none y = y := rfl

theorem filter_true' (kw : Kw) : kw.filter (fun _ => true) = kw :=
  List.filter_eq_self.mpr fun _ _ => rfl

theorem erase_filter (a : Name) (as : List Name) (kw : Kw) :
    (erase a kw).filter (fun kv => !as.contains kv.1) = kw.filter (fun kv => !(a :: as).contains kv.1) := by
  unfold erase
  rw [List.filter_filter]
  apply List.filter_congr
  intro kv _
  by_cases h : kv.1 = a <;> simp [h]

theorem filter_cons_of_lookup_none (a : Name) (as : List Name) (kw : Kw) (h : lookup a kw = none) :
    kw.filter (fun kv => !(a :: as).contains kv.1) = kw.filter (fun kv => !as.contains kv.1) := by
  apply List.filter_congr
  intro kv hkv
  have := (lookup_eq_none_iff a kw).mp h kv hkv
  simp [this]

theorem kwonlyLoop_eq (s : Sig) (ks : List Name) (hnd : ks.Nodup) (kw : Kw) :
    kwonlyLoop s ks kw =
      (fill (fun k => firstOf (lookup k kw) (lookup k s.kwdefaults)) ks []).map
        fun e => (e, kw.filter fun kv => !ks.contains kv.1) := by
  induction ks generalizing kw with
  | nil => simp only [kwonlyLoop, fill, Option.map_some, List.contains_nil, Bool.not_false, filter_true']
  | cons a as ih =>
    obtain ⟨hna, hnd'⟩ := List.nodup_cons.mp hnd
    cases hL : lookup a kw with
    | some v =>
      -- the later parameters differ from `a`, so deleting `a` from the keywords does not change their values
      have hcongr := fill_congr (fun b => firstOf (lookup b (erase a kw)) (lookup b s.kwdefaults))
        (fun b => firstOf (lookup b kw) (lookup b s.kwdefaults)) as []
        fun q hq => by rw [lookup_erase_ne q a kw fun h => hna (h ▸ hq)]
      simp only [kwonlyLoop, hL, ih hnd', fill, hcongr, erase_filter, firstOf_some]
      cases fill (fun b => firstOf (lookup b kw) (lookup b s.kwdefaults)) as [] <;> rfl
    | none =>
      cases hD : lookup a s.kwdefaults with
      | none => simp only [kwonlyLoop, hL, hD, fill, firstOf_none, Option.map_none]
      | some d =>
        simp only [kwonlyLoop, hL, hD, ih hnd', fill, firstOf_none, filter_cons_of_lookup_none a as kw hL]
        cases fill (fun b => firstOf (lookup b kw) (lookup b s.kwdefaults)) as [] <;> rfl

theorem argsLoop_nil (s : Sig) (as : List Name) (kw : Kw) :
    argsLoop s as [] kw = (kwonlyLoop { s with kwdefaults := s.defaults } as kw).map fun p => (p.1, [], p.2) := by
  induction as generalizing kw with
  | nil => rfl
  | cons a as ih =>
    simp only [argsLoop, kwonlyLoop]
    cases lookup a kw with
    | some v =>
      simp only [ih, Option.map_map]
      rfl
    | none =>
      cases lookup a s.defaults with
      | none => rfl
      | some d =>
        simp only [ih, Option.map_map]
        rfl

theorem argsLoop_eq (s : Sig) (as : List Name) (hnd : as.Nodup) (pos : List Val) (kw : Kw) :
    argsLoop s as pos kw =
      if (as.take pos.length).any fun a => (lookup a kw).isSome then none
      else (fill (fun a => firstOf (lookup a kw) (lookup a s.defaults)) as pos).map
        fun e => (e, pos.drop as.length, kw.filter fun kv => !(as.drop pos.length).contains kv.1) := by
  induction pos generalizing as with
  | nil =>
    rw [argsLoop_nil, kwonlyLoop_eq _ as hnd, List.drop_nil]
    cases fill (fun a => firstOf (lookup a kw) (lookup a s.defaults)) as [] <;> rfl
  | cons v rest ih =>
    cases as with
    | nil => simp only [argsLoop, fill, List.take_nil, List.any_nil, Bool.false_eq_true, if_false, Option.map_some,
        List.drop_nil, List.contains_nil, Bool.not_false, filter_true', List.length_nil, List.drop_zero]
    | cons a as =>
      simp only [argsLoop, ih as (List.nodup_cons.mp hnd).2, fill, List.length_cons, List.take_succ_cons,
        List.any_cons, List.drop_succ_cons]
      cases (lookup a kw).isSome
      case true => rfl
      case false =>
        simp only [Bool.false_or, Bool.false_eq_true, if_false]
        split
        · rfl
        · cases fill (fun a => firstOf (lookup a kw) (lookup a s.defaults)) as rest <;> rfl

/-- no conflict between positionally filled parameters and keywords: the keyword arguments that are left
    after the two loops are exactly the ones that name no addressable parameter -/
theorem leftover_eq (A K : List Name) (kw : Kw) (n : Nat)
    (h : ((A.take n).any fun a => (lookup a kw).isSome) = false) :
    (kw.filter fun kv => !(A.drop n).contains kv.1).filter (fun kv => !K.contains kv.1) =
      kw.filter fun kv => !(A ++ K).contains kv.1 := by
  rw [List.filter_filter]
  apply List.filter_congr
  intro kv hkv
  have hnot : kv.1 ∉ A.take n := fun hm =>
    (lookup_eq_none_iff kv.1 kw).mp (by simpa using List.any_eq_false.mp h kv.1 hm) kv hkv rfl
  have hsplit : kv.1 ∈ A ↔ kv.1 ∈ A.drop n := by
    rw [← List.take_append_drop n A, List.mem_append, List.take_append_drop]
    exact ⟨fun hm => hm.resolve_left hnot, Or.inr⟩
  simp only [List.contains_eq_mem, List.mem_append, hsplit, Bool.decide_or, Bool.not_or, Bool.and_comm]

theorem extra_nonempty (P A K : List Name) (kw : Kw) (hnd : (P ++ A ++ K).Nodup) (p : Name) (hp : p ∈ P)
    (h : (lookup p kw).isSome = true) : (kw.filter fun kv => !(A ++ K).contains kv.1).isEmpty = false := by
  obtain ⟨kv, hkv, hk⟩ := (lookup_isSome_iff p kw).mp h
  rw [List.append_assoc] at hnd
  have hnotin : kv.1 ∉ A ++ K := fun hm => (List.nodup_append.mp hnd).2.2 p hp kv.1 hm hk.symm
  have hmem : kv ∈ kw.filter fun kv => !(A ++ K).contains kv.1 :=
    List.mem_filter.mpr ⟨hkv, by simpa using hnotin⟩
  cases hf : kw.filter fun kv => !(A ++ K).contains kv.1 with
  | nil => exact absurd (hf ▸ hmem) List.not_mem_nil
  | cons _ _ => rfl

theorem fill_lookup_filter (P : Name → Bool) (kw : Kw) (d : Name → Option Val) (ks : List Name) (vs : List Val)
    (h : ∀ k ∈ ks, P k = true) :
    fill (fun k => firstOf (lookup k (kw.filter fun kv => P kv.1)) (d k)) ks vs =
      fill (fun k => firstOf (lookup k kw) (d k)) ks vs :=
  fill_congr _ _ ks vs fun k hk => by rw [lookup_filter k kw P (h k hk)]

theorem isEmpty_drop {α : Type} (n : Nat) (l : List α) : (l.drop n).isEmpty = !decide (n < l.length) := by
  rw [Bool.eq_iff_iff]
  simp [List.isEmpty_iff, Nat.not_lt]

theorem exists_append3 {α : Type} (i a : Nat) (src : List α) (h : i + a ≤ src.length) :
    ∃ pre mid post, src = pre ++ mid ++ post ∧ pre.length = i ∧ post.length = a := by
  refine ⟨src.take i, (src.drop i).take (src.length - i - a), (src.drop i).drop (src.length - i - a), ?_, ?_, ?_⟩
  · rw [List.append_assoc, List.take_append_drop, List.take_append_drop]
  · exact List.length_take_of_le (Nat.le_of_add_right_le h)
  · rw [List.length_drop, List.length_drop]
    exact Nat.sub_sub_self (Nat.le_sub_of_add_le' h)

theorem splitTarget_append {α : Type} (pre mid post : List α) :
    splitTarget (pre.length + post.length + 1) (some pre.length) (pre ++ mid ++ post) =
      some (pre.map .one ++ [.many mid] ++ post.map .one) := by
  have hlen : ¬ (pre.length + mid.length + post.length < pre.length + post.length) :=
    Nat.not_lt.mpr (Nat.add_le_add_right (Nat.le_add_right _ _) _)
  have hafter : pre.length + post.length + 1 - pre.length - 1 = post.length := by
    rw [Nat.add_assoc, Nat.add_sub_cancel_left, Nat.add_sub_cancel]
  simp only [splitTarget, List.length_append, Nat.add_sub_cancel, hlen, hafter, if_false]
  cases post with
  | nil => simp
  | cons x post =>
    rw [if_neg (by simp), Nat.add_sub_cancel_left, ← List.length_append, List.drop_left, List.append_assoc pre mid,
      List.take_left, List.drop_left, List.take_left]

theorem pyBoolOp_cons {α : Type} (truthy : α → Bool) (op : BOp) (x y : α) (r : List α) :
    pyBoolOp truthy op x (y :: r) =
      if (match op with | .and => !truthy x | .or => truthy x) then (x, 1)
      else ((pyBoolOp truthy op y r).1, (pyBoolOp truthy op y r).2 + 1) := rfl

@[simp] theorem isCmp_cmp (i : Nat) : (Ev.cmp i).isCmp = true := rfl

@[simp] theorem isCmp_operand (i : Nat) : (Ev.operand i).isCmp = false := rfl

theorem cmpLoop_val (link : Nat → Bool) (i k : Nat) :
    (cmpLoop link i k).1 = (pyChainFrom link i k).1 ∧
    (cmpLoop link i k).1 = (List.range' i k).all link ∧
    (cmpLoop link i k).2 = (pyChainFrom link i k).2.filter Ev.isCmp := by
  induction k generalizing i with
  | zero => simp [cmpLoop, pyChainFrom]
  | succ k ih =>
    obtain ⟨h1, h2, h3⟩ := ih (i + 1)
    unfold cmpLoop pyChainFrom
    cases hl : link i
    · simp [List.range'_succ, hl, List.filter_cons]
    · simp [List.range'_succ, hl, List.filter_cons, ← h1, h2, h3]

theorem foldCompareChain_trace (link : Nat → Bool) (n : Nat) :
    (foldCompareChain link n).2 = (List.range (n + 1)).map .operand ++ (cmpLoop link 0 n).2 := rfl

theorem pyChain_trace (link : Nat → Bool) (n : Nat) :
    (pyChain link n).2 = .operand 0 :: (pyChainFrom link 0 n).2 := rfl

theorem operands_filter (l : List Nat) :
    (l.map Ev.operand).filter (fun e => !e.isCmp) = l.map Ev.operand ∧ (l.map Ev.operand).filter Ev.isCmp = [] := by
  refine ⟨List.filter_eq_self.mpr fun e he => ?_, List.filter_eq_nil_iff.mpr fun e he => ?_⟩
  all_goals
    obtain ⟨i, _, rfl⟩ := List.mem_map.mp he
    simp only [isCmp_operand, Bool.not_false, Bool.false_eq_true, not_false_eq_true]

theorem cmpLoop_filter (link : Nat → Bool) (n : Nat) : (cmpLoop link 0 n).2.filter (fun e => !e.isCmp) = [] := by
  rw [(cmpLoop_val link 0 n).2.2, List.filter_filter]
  exact List.filter_eq_nil_iff.mpr fun e _ => by cases e.isCmp <;> decide

theorem pyChainFrom_operands (link : Nat → Bool) (i k : Nat) (h : ∀ j, i ≤ j → j + 1 < i + k → link j = true) :
    (pyChainFrom link i k).2.filter (fun e => !e.isCmp) = (List.range' (i + 1) k).map Ev.operand := by
  induction k generalizing i with
  | zero => simp [pyChainFrom]
  | succ k ih =>
    unfold pyChainFrom
    by_cases hl : link i = true
    · have := ih (i + 1) (fun j h1 h2 => h j (by omega) (by omega))
      simp [hl, this, List.range'_succ]
    · cases k with
      | zero => simp [hl]
      | succ k => exact absurd (h i (Nat.le_refl _) (by omega)) hl

theorem dispatchBinOpFixed_of_not_priority (c : BinCfg) (hp : c.priority = false) :
    dispatchBinOpFixed c = dispatchBinOp c := by
  simp only [dispatchBinOpFixed, hp, Bool.false_eq_true, if_false]

theorem dispatchBinOpFixed_difftype (c : BinCfg) (hs : c.same = false) : dispatchBinOpFixed c = cpyBinOp c := by
  obtain ⟨same, rsub, rdiff, lop, rrop⟩ := c
  subst hs
  unfold dispatchBinOpFixed cpyBinOp
  split
  · rcases lop with _ | _ | lv <;> rcases rrop with _ | _ | rv <;> rfl
  · -- without priority and for different types `afterL _ false` is `tryReflected`
    rcases lop with _ | _ | lv <;> rfl

/-- for operands of one type CPython never calls the reflected method, so a value can only come from `__op__` -/
theorem dispatchBinOp_sametype (c : BinCfg) (hs : c.same = true) (calls : List MCall) (v : Val)
    (h : cpyBinOp c = (calls, some v)) : dispatchBinOp c = (calls, some v) := by
  obtain ⟨same, rsub, rdiff, lop, rrop⟩ := c
  subst hs
  rcases lop with _ | _ | lv
  · cases h
  · cases h
  · cases h
    rfl

theorem dispatchCmpFixed_of_not_priority (c : CmpCfg) (hp : c.priority = false) :
    dispatchCmpFixed c = dispatchCmp c := by
  simp only [dispatchCmpFixed, hp, Bool.false_eq_true, if_false]

/-- the two differ only where both methods decline and CPython falls back to identity -/
theorem dispatchCmpFixed_agrees (c : CmpCfg) :
    (dispatchCmpFixed c).1 = (cpyCmp c).1 ∧
      ((dispatchCmpFixed c).2 = (cpyCmp c).2 ∨ (dispatchCmpFixed c).2 = none) := by
  obtain ⟨kind, same, rsub, ident, lop, rrop⟩ := c
  unfold dispatchCmpFixed cpyCmp dispatchCmp
  split
  · rcases rrop with _ | rv
    · rcases lop with _ | lv
      · cases kind <;> exact ⟨rfl, Or.inr rfl⟩
      · exact ⟨rfl, Or.inl rfl⟩
    · exact ⟨rfl, Or.inl rfl⟩
  · rcases lop with _ | lv
    · rcases rrop with _ | rv
      · cases kind <;> exact ⟨rfl, Or.inr rfl⟩
      · exact ⟨rfl, Or.inl rfl⟩
    · exact ⟨rfl, Or.inl rfl⟩

theorem dispatchCmpFixed_sound (c : CmpCfg) (calls : List MCall) (b : Bool)
    (h : dispatchCmpFixed c = (calls, some b)) : cpyCmp c = (calls, some b) := by
  obtain ⟨h1, h2⟩ := dispatchCmpFixed_agrees c
  rw [h] at h1 h2
  rcases h2 with h2 | h2
  · exact (Prod.ext h1 h2).symm
  · cases h2

end CohdlVerif.C10
