import CohdlVerif.Lemmas.C19Basic

/-! C19: `+ - *` are exact, and the constructors from another format, from `Signed` and from `Unsigned`
    preserve the represented number. -/

namespace CohdlVerif.C19

theorem pat_add_wrapS (n x y : Int) : pat n (wrapS n x + wrapS n y) = pat n (x + y) := by
  unfold pat
  rw [Int.add_emod, wrapS_emod, wrapS_emod, ← Int.add_emod]

theorem sAdd_pat {n x y : Int} (hn : 1 ≤ n) : sAdd (pat n x) (pat n y) = pat n (x + y) := by
  unfold sAdd
  rw [sInt_pat n x hn, sInt_pat n y hn, pat_w, pat_w, Int.max_self]
  exact pat_add_wrapS n x y

theorem uAdd_same (n x y : Int) : uAdd (pat n x) (pat n y) = pat n (x + y) := by
  unfold uAdd pat
  dsimp only
  rw [Int.max_self, ← Int.add_emod]

theorem inv_pat (n y : Int) : (pat n y).inv = pat n (-y - 1) := by
  have hr := emod_rangeU y n
  have e : -y - 1 = p2 n - 1 - y % p2 n + p2 n * (-(y / p2 n) - 1) := by
    have := Int.mul_ediv_add_emod y (p2 n)
    rw [Int.mul_sub, Int.mul_neg, Int.mul_one]
    omega
  unfold BV.inv pat
  dsimp only
  unfold inRangeU at hr
  rw [e, Int.add_mul_emod_self_left, Int.emod_eq_of_lt (a := p2 n - 1 - y % p2 n) (by omega) (by omega)]

theorem uNeg_pat (n y : Int) : uNeg (pat n y) = pat n (-y) := by
  unfold uNeg
  rw [inv_pat, pat_w, pat_u, Int.emod_add_emod, show -y - 1 + 1 = -y by omega]
  rfl

theorem sNeg_pat (n y : Int) (hn : 2 ≤ n) : sNeg (pat n y) = .ok (pat n (-y)) := by
  unfold sNeg sAdd
  rw [if_neg (by rw [pat_w]; omega), if_neg (by rw [pat_w]; omega), inv_pat]
  dsimp only
  simp only [pat_w]
  rw [show BV.sInt ⟨2, 1⟩ = 1 from rfl, sInt_pat n _ (by omega), Int.max_eq_left hn, Int.emod_emod,
    ← Int.emod_add_emod, wrapS_emod, Int.emod_add_emod, show -y - 1 + 1 = -y by omega]
  rfl

/-- the core library bounds a product of factors bounded by natural numbers `s`, `t`; hence the casts -/
theorem mul_rangeS {w1 w2 v1 v2 : Int} (hw1 : 1 ≤ w1) (hw2 : 1 ≤ w2) (h1 : inRangeS w1 v1) (h2 : inRangeS w2 v2) :
    inRangeS (w1 + w2) (v1 * v2) := by
  have hpos := Int.mul_pos (p2_pos (w1 - 1)) (p2_pos (w2 - 1))
  unfold inRangeS at *
  rw [p2_pred _ (show 1 ≤ w1 + w2 - 1 by omega), show w1 + w2 - 1 - 1 = w1 - 1 + (w2 - 1) by omega,
    p2_add _ _ (by omega) (by omega)]
  rw [← p2_cast (w1 - 1)] at h1 hpos ⊢
  rw [← p2_cast (w2 - 1)] at h2 hpos ⊢
  have lo := Int.neg_mul_le_mul h1.1 h1.2 h2.1 h2.2
  have hi := Int.mul_le_mul_of_natAbs_le (x := v1) (y := v2) (s := 2 ^ (w1 - 1).toNat) (t := 2 ^ (w2 - 1).toNat)
    (by omega) (by omega)
  omega

theorem mul_rangeU {w1 w2 v1 v2 : Int} (hw1 : 0 ≤ w1) (hw2 : 0 ≤ w2) (h1 : inRangeU w1 v1) (h2 : inRangeU w2 v2) :
    inRangeU (w1 + w2) (v1 * v2) := by
  unfold inRangeU
  rw [p2_add w1 w2 hw1 hw2]
  exact ⟨Int.mul_nonneg h1.1 h2.1, Int.lt_of_le_of_lt (Int.mul_le_mul_of_nonneg_left (Int.le_of_lt h2.2) h1.1)
    (Int.mul_lt_mul_of_pos_right h1.2 (p2_pos w2))⟩

/-! `+ -`: both operands are shifted to the common right bound and fit one bit less than the result. -/

theorem add_rangeS {n x y : Int} (hn : 1 ≤ n) (hx : inRangeS n x) (hy : inRangeS n y) :
    inRangeS (n + 1) (x + y) ∧ inRangeS (n + 1) (x - y) := by
  have hp := p2_pred n hn
  unfold inRangeS at *
  rw [show n + 1 - 1 = n by omega]
  omega

theorem add_rangeU {n x y : Int} (hn : 0 ≤ n) (hx : inRangeU n x) (hy : inRangeU n y) : inRangeU (n + 1) (x + y) := by
  have hp := p2_pred (n + 1) (by omega)
  unfold inRangeU at *
  rw [show n + 1 - 1 = n by omega] at hp
  omega

theorem alignS (l r v tl tr : Int) (hlr : r ≤ l) (htr : tr ≤ r) (hl : l < tl) (hv : inRangeS (l - r + 1) v) :
    sResize (pat (l - r + 1) v) (tl - tr + 1) (r - tr) = .ok (pat (tl - tr + 1) (v * p2 (r - tr))) ∧
    inRangeS (tl - tr) (v * p2 (r - tr)) :=
  ⟨sResize_ok (width_pos hlr) (by omega) (by omega) hv, scaleS _ (r - tr) v _ (width_pos hlr) (by omega) (by omega) hv⟩

theorem alignU (l r v tl tr : Int) (hlr : r ≤ l) (htr : tr ≤ r) (hl : l < tl) (hv : inRangeU (l - r + 1) v) :
    uResize (pat (l - r + 1) v) (tl - tr + 1) (r - tr) = .ok (pat (tl - tr + 1) (v * p2 (r - tr))) ∧
    inRangeU (tl - tr) (v * p2 (r - tr)) :=
  ⟨uResize_ok (width_pos hlr) (by omega) (by omega) hv, scaleU _ (r - tr) v _ (by omega) (by omega) (by omega) hv⟩

theorem arithS_exact (op : Op) {l1 r1 v1 l2 r2 v2 : Int} (h1 : r1 ≤ l1) (h2 : r2 ≤ l2)
    (hv1 : inRangeS (l1 - r1 + 1) v1) (hv2 : inRangeS (l2 - r2 + 1) v2) :
    arithS op l1 r1 v1 l2 r2 v2 =
      .ok ⟨if op = .mul then l1 + l2 + 1 else max l1 l2 + 1, (specArith op r1 v1 r2 v2).2,
        (specArith op r1 v1 r2 v2).1⟩ := by
  obtain ⟨ex, hx⟩ := alignS l1 r1 v1 (max l1 l2 + 1) (min r1 r2) h1 (Int.min_le_left ..)
    (Int.lt_add_one_of_le (Int.le_max_left ..)) hv1
  obtain ⟨ey, hy⟩ := alignS l2 r2 v2 (max l1 l2 + 1) (min r1 r2) h2 (Int.min_le_right ..)
    (Int.lt_add_one_of_le (Int.le_max_right ..)) hv2
  have htw : 1 ≤ max l1 l2 + 1 - min r1 r2 := by omega
  have hm := mul_rangeS (width_pos h1) (width_pos h2) hv1 hv2
  unfold arithS
  rw [mkS_ok (width_pos h1) hv1, ok_bind, mkS_ok (width_pos h2) hv2, ok_bind]
  cases op with
  | mul =>
    dsimp only
    rw [pat_w, pat_w, sInt_ok (width_pos h1) hv1, sInt_ok (width_pos h2) hv2, mkS_ok (by omega) hm, ok_bind,
      resultRaw_pat (by omega), ok_bind, sInt_ok (by omega) (inRangeS_mono (by omega) hm)]
    rfl
  | add =>
    dsimp only
    rw [ex, ok_bind, ey, ok_bind, if_pos rfl, pure_bind, sAdd_pat (by omega), resultRaw_pat rfl, ok_bind,
      sInt_ok (by omega) (add_rangeS htw hx hy).1]
    rfl
  | sub =>
    dsimp only
    rw [ex, ok_bind, ey, ok_bind, if_neg (by decide), sNeg_pat _ _ (by omega), ok_bind, pure_bind,
      sAdd_pat (by omega), resultRaw_pat rfl, ok_bind, ← Int.sub_eq_add_neg,
      sInt_ok (by omega) (add_rangeS htw hx hy).2]
    rfl

theorem arithU_exact (op : Op) {l1 r1 v1 l2 r2 v2 : Int} (h1 : r1 ≤ l1) (h2 : r2 ≤ l2)
    (hv1 : inRangeU (l1 - r1 + 1) v1) (hv2 : inRangeU (l2 - r2 + 1) v2) :
    arithU op l1 r1 v1 l2 r2 v2 =
      .ok ⟨if op = .mul then l1 + l2 + 1 else max l1 l2 + 1, (specArith op r1 v1 r2 v2).2,
        if op = .sub then (specArith op r1 v1 r2 v2).1 % p2 (max l1 l2 + 1 - (specArith op r1 v1 r2 v2).2 + 1)
        else (specArith op r1 v1 r2 v2).1⟩ := by
  obtain ⟨ex, hx⟩ := alignU l1 r1 v1 (max l1 l2 + 1) (min r1 r2) h1 (Int.min_le_left ..)
    (Int.lt_add_one_of_le (Int.le_max_left ..)) hv1
  obtain ⟨ey, hy⟩ := alignU l2 r2 v2 (max l1 l2 + 1) (min r1 r2) h2 (Int.min_le_right ..)
    (Int.lt_add_one_of_le (Int.le_max_right ..)) hv2
  have hm := mul_rangeU (by omega) (by omega) hv1 hv2
  unfold arithU
  rw [mkU_ok (width_pos h1) hv1, ok_bind, mkU_ok (width_pos h2) hv2, ok_bind]
  cases op with
  | mul =>
    dsimp only
    rw [pat_w, pat_w, u_ok hv1, u_ok hv2, mkU_ok (by omega) hm, ok_bind,
      resultRaw_pat (by omega), ok_bind, u_ok (inRangeU_mono (by omega) hm)]
    rfl
  | add =>
    dsimp only
    rw [ex, ok_bind, ey, ok_bind, if_pos rfl, uAdd_same, resultRaw_pat rfl, ok_bind,
      u_ok (add_rangeU (by omega) hx hy)]
    rfl
  | sub =>
    dsimp only
    rw [ex, ok_bind, ey, ok_bind, if_neg (by decide), uNeg_pat, uAdd_same, resultRaw_pat rfl, ok_bind]
    rfl

theorem ctorFixedS_covers {tl tr sl sr v : Int} (hs : sr ≤ sl) (hv : inRangeS (sl - sr + 1) v)
    (hl : sl ≤ tl) (hr : tr ≤ sr) : ctorFixedS tl tr sl sr v = .ok (v * p2 (sr - tr)) := by
  have hz := scaleS _ (sr - tr) v (tl - tr + 1) (width_pos hs) (by omega) (by omega) hv
  unfold ctorFixedS
  rw [mkS_ok (width_pos hs) hv, ok_bind]
  dsimp only
  by_cases hc : tl = sl ∧ tr = sr
  · obtain ⟨c1, c2⟩ := hc
    subst c1 c2
    rw [if_pos ⟨rfl, rfl⟩, sFromS_ok (width_pos hs) (Int.le_refl _) hv, ok_bind, sInt_ok (width_pos hs) hv,
      Int.sub_self, p2_zero, Int.mul_one]
    rfl
  · rw [if_neg hc, if_neg (by omega), if_neg (by omega), sResize_ok (width_pos hs) (by omega) (by omega) hv, ok_bind,
      sFromS_ok (by omega) (Int.le_refl _) hz, ok_bind, sInt_ok (by omega) hz]
    rfl

theorem ctorFixedS_rejects {tl tr sl sr v : Int} (h : ¬ (sl ≤ tl ∧ tr ≤ sr)) :
    ∃ e, ctorFixedS tl tr sl sr v = .error e := by
  unfold ctorFixedS
  cases mkS (sl - sr + 1) v with
  | error e => exact ⟨e, rfl⟩
  | ok b =>
    rw [ok_bind, if_neg (by omega)]
    by_cases h1 : tl ≥ sl
    · rw [if_neg (by omega), if_pos (by omega)]
      exact ⟨_, rfl⟩
    · rw [if_pos h1]
      exact ⟨_, rfl⟩

theorem ctorFixedU_covers {tl tr sl sr v : Int} (hs : sr ≤ sl) (hv : inRangeU (sl - sr + 1) v)
    (hl : sl ≤ tl) (hr : tr ≤ sr) : ctorFixedU tl tr sl sr v = .ok (v * p2 (sr - tr)) := by
  have hz := scaleU _ (sr - tr) v (tl - tr + 1) (by omega) (by omega) (by omega) hv
  unfold ctorFixedU
  rw [mkU_ok (width_pos hs) hv, ok_bind]
  dsimp only
  by_cases hc : tl = sl ∧ tr = sr
  · obtain ⟨c1, c2⟩ := hc
    subst c1 c2
    rw [if_pos ⟨rfl, rfl⟩, uFromU_ok (width_pos hs) (Int.le_refl _) hv, ok_bind, u_ok hv,
      Int.sub_self, p2_zero, Int.mul_one]
    rfl
  · rw [if_neg hc, if_neg (by omega), if_neg (by omega), uResize_ok (width_pos hs) (by omega) (by omega) hv, ok_bind,
      uFromU_ok (by omega) (Int.le_refl _) hz, ok_bind, u_ok hz]
    rfl

theorem ctorSignedS_ok {l r sw v : Int} (hlr : r ≤ l) (hsw : 1 ≤ sw) (hv : inRangeS sw v)
    (hr : r ≤ 0) (hfit : sw - r ≤ l - r + 1) : ctorSignedS l r sw v = .ok (v * p2 (-r)) := by
  unfold ctorSignedS
  rw [mkS_ok hsw hv, ok_bind]
  dsimp only
  rw [if_neg (by omega), sResize_ok hsw (by omega) (by omega) hv, ok_bind,
    sInt_ok (by omega) (scaleS sw (-r) v _ hsw (by omega) (by omega) hv)]
  rfl

theorem ctorUnsignedU_ok {l r sw v : Int} (hsw : 1 ≤ sw) (hv : inRangeU sw v)
    (hr : r ≤ 0) (hfit : sw - r ≤ l - r + 1) : ctorUnsignedU l r sw v = .ok (v * p2 (-r)) := by
  have hz := scaleU sw (-r) v (l - r + 1) (by omega) (by omega) (by omega) hv
  unfold ctorUnsignedU
  rw [mkU_ok hsw hv, ok_bind]
  dsimp only
  rw [if_neg (by omega), uResize_ok hsw (by omega) (by omega) hv, ok_bind,
    uFromU_ok (by omega) (Int.le_refl _) hz, ok_bind, u_ok hz]
  rfl

theorem inRangeS_of_U (w v : Int) (h : inRangeU (w - 1) v) : inRangeS w v := by
  have := p2_pos (w - 1)
  unfold inRangeU at h
  unfold inRangeS
  omega

theorem ctorUnsignedS_ok {l r sw v : Int} (hsw : 1 ≤ sw) (hv : inRangeU sw v)
    (hr : r ≤ 0) (hfit : sw - r ≤ l - r) : ctorUnsignedS l r sw v = .ok (v * p2 (-r)) := by
  have hs := inRangeS_of_U _ _ (scaleU sw (-r) v (l - r + 1 - 1) (by omega) (by omega) (by omega) hv)
  unfold ctorUnsignedS
  rw [mkU_ok hsw hv, ok_bind]
  dsimp only
  rw [if_neg (by omega), uResize_ok hsw (by omega) (by omega) hv, ok_bind]
  unfold sFromU
  rw [if_pos (by rw [pat_w]; omega), u_ok (scaleU sw (-r) v _ (by omega) (by omega) (by omega) hv),
    mkS_ok (by omega) hs, ok_bind, sInt_ok (by omega) hs]
  rfl

end CohdlVerif.C19
