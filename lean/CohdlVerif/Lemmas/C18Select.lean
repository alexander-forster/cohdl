import CohdlVerif.Lemmas.C18Fold
/-! C18: the helpers that pick an element: choose_first and the counts built on it, minimum / maximum. -/
namespace CohdlVerif.C18

theorem firstImpl_eq (l : List (Bool × α)) (d : α) : firstImpl l d = chooseFirstSpec l d := by
  induction l with
  | nil => rfl
  | cons x r ih =>
    obtain ⟨c, v⟩ := x
    cases c
    · simpa [firstImpl, chooseFirstSpec, List.find?_cons] using ih
    · rfl

theorem firstImpl_enum (p : α → Bool) (seq : List α) :
    ∀ k : Nat, firstImpl ((enumFrom k seq).map fun q => (p q.2, q.1)) (k + seq.length)
      = k + (seq.takeWhile fun e => !(p e)).length := by
  induction seq with
  | nil => intro k; rfl
  | cons a r ih =>
    intro k
    simp only [enumFrom, List.map_cons, firstImpl, List.takeWhile_cons]
    cases hp : p a
    · have := ih (k + 1)
      rw [Nat.add_assoc, Nat.add_comm 1] at this
      simp only [Bool.false_eq_true, if_false, Bool.not_false, if_true, List.length_cons, this]
      omega
    · rfl

theorem countWhile_eq [DecidableEq α] (seq : List α) (val : α) :
    countWhile seq val = ⟨uptoW seq.length, countWhileSpec seq val⟩ := by
  have := firstImpl_enum (fun e => decide (e ≠ val)) seq 0
  rw [Nat.zero_add, Nat.zero_add] at this
  rw [countWhile, this, countWhileSpec]
  simp only [ne_eq, decide_not, Bool.not_not]

theorem countUntil_eq [DecidableEq α] (seq : List α) (val : α) :
    countUntil seq val = ⟨uptoW seq.length, countUntilSpec seq val⟩ := by
  have := firstImpl_enum (fun e => decide (e = val)) seq 0
  rw [Nat.zero_add, Nat.zero_add] at this
  rw [countUntil, this, countUntilSpec]
  simp only [ne_eq, decide_not]

theorem selectM_eq [BEq κ] [LawfulBEq κ] (arg : κ) (br : List (κ × α)) (d : α) :
    selectM arg br d = ((br.find? (·.1 == arg)).map (·.2)).getD d := by
  unfold selectM
  induction br with
  | nil => rfl
  | cons x r ih =>
    rw [List.lookup_cons, List.find?_cons, BEq.comm (a := x.1)]
    cases arg == x.1
    · exact ih
    · rfl

/-- what the comparison has to satisfy (a strict weak order): `<` and `>` on Int do -/
structure StrictWeak (cmp : Int → Int → Bool) : Prop where
  irrefl : ∀ a, cmp a a = false
  asymm : ∀ a b, cmp a b = true → cmp b a = false
  negtrans : ∀ a b c, cmp a b = false → cmp b c = false → cmp a c = false

theorem ltI_eq_true {a b : Int} : ltI a b = true ↔ a < b := decide_eq_true_iff
theorem ltI_eq_false {a b : Int} : ltI a b = false ↔ b ≤ a := decide_eq_false_iff_not.trans Int.not_lt
theorem gtI_eq_true {a b : Int} : gtI a b = true ↔ b < a := decide_eq_true_iff
theorem gtI_eq_false {a b : Int} : gtI a b = false ↔ a ≤ b := decide_eq_false_iff_not.trans Int.not_lt

theorem ltI_sw : StrictWeak ltI :=
  ⟨fun a => ltI_eq_false.mpr (Int.le_refl a),
   fun a b h => ltI_eq_false.mpr (Int.le_of_lt (ltI_eq_true.mp h)),
   fun a b c => by rw [ltI_eq_false, ltI_eq_false, ltI_eq_false]; exact fun h₁ h₂ => Int.le_trans h₂ h₁⟩

/-- `gtI a b` unfolds to `ltI b a` -/
theorem gtI_sw : StrictWeak gtI :=
  ⟨ltI_sw.irrefl, fun a b => ltI_sw.asymm b a, fun a b c h₁ h₂ => ltI_sw.negtrans c b a h₂ h₁⟩

/-- Whatever the bracketing, "keep the left operand only if strictly better" returns the LAST best element of
    the list: nothing is better, everything behind it is strictly worse. -/
theorem pick_tree {cmp : Int → Int → Bool} (sw : StrictWeak cmp) {l : List (Nat × Int)} {r : Nat × Int}
    (h : FoldTree (pick cmp) l r) :
    ∃ pre post, l = pre ++ r :: post ∧ (∀ x ∈ l, cmp x.2 r.2 = false) ∧ (∀ x ∈ post, cmp r.2 x.2 = true) := by
  induction h with
  | leaf a =>
    refine ⟨[], [], rfl, ?_, fun x hx => by cases hx⟩
    intro x hx
    rw [List.mem_singleton.mp hx]
    exact sw.irrefl _
  | @node l₁ l₂ r₁ r₂ _ _ ih₁ ih₂ =>
    obtain ⟨pre₁, post₁, e₁, best₁, after₁⟩ := ih₁
    obtain ⟨pre₂, post₂, e₂, best₂, after₂⟩ := ih₂
    cases hc : cmp r₁.2 r₂.2
    · -- r₂ is at least as good as r₁, hence as everything in l₁
      rw [show pick cmp r₁ r₂ = r₂ by simp only [pick, hc, Bool.false_eq_true, if_false]]
      refine ⟨l₁ ++ pre₂, post₂, by simp [e₂], ?_, after₂⟩
      intro x hx
      rcases List.mem_append.mp hx with hx | hx
      · exact sw.negtrans _ _ _ (best₁ x hx) hc
      · exact best₂ x hx
    · -- r₁ beats r₂, hence everything in l₂
      rw [show pick cmp r₁ r₂ = r₁ by simp only [pick, hc, if_true]]
      have worse : ∀ x ∈ l₂, cmp r₁.2 x.2 = true := by
        intro x hx
        cases hx' : cmp r₁.2 x.2
        · rw [sw.negtrans _ _ _ hx' (best₂ x hx)] at hc
          cases hc
        · rfl
      refine ⟨pre₁, post₁ ++ l₂, by simp [e₁], ?_, ?_⟩
      · intro x hx
        rcases List.mem_append.mp hx with hx | hx
        · exact best₁ x hx
        · exact sw.asymm _ _ (worse x hx)
      · intro x hx
        rcases List.mem_append.mp hx with hx | hx
        · exact after₁ x hx
        · exact worse x hx

theorem enumFrom_map_snd (l : List α) : ∀ m : Nat, (enumFrom m l).map (·.2) = l := by
  induction l with
  | nil => intro m; rfl
  | cons a t ih => intro m; simp [enumFrom, ih]

theorem enumFrom_split (keys : List α) : ∀ (k : Nat) (pre post : List (Nat × α)) (r : Nat × α),
    enumFrom k keys = pre ++ r :: post → r.1 = k + pre.length := by
  induction keys with
  | nil => intro k pre post r h; simp [enumFrom] at h
  | cons a t ih =>
    intro k pre post r h
    cases pre with
    | nil =>
      rw [enumFrom, List.nil_append, List.cons.injEq] at h
      rw [← h.1]
      rfl
    | cons p pre' =>
      rw [enumFrom, List.cons_append, List.cons.injEq] at h
      rw [ih (k + 1) pre' post r h.2, List.length_cons]
      omega

/-- `min_element` / `max_element`: index and value of the FIRST extremum -/
theorem extElement_spec {cmp : Int → Int → Bool} (sw : StrictWeak cmp) (keys : List Int) (h : keys ≠ []) :
    ∃ i v pre post, extElement cmp keys = some (i, v) ∧ keys = pre ++ v :: post ∧ i = pre.length ∧
      (∀ x ∈ pre, cmp v x = true) ∧ (∀ x ∈ keys, cmp x v = false) := by
  have hne : (enumFrom 0 keys).reverse ≠ [] := by
    cases keys with
    | nil => exact absurd rfl h
    | cons a t => simp [enumFrom]
  obtain ⟨r, hr, ht⟩ := batchedFold_tree (pick cmp) 2 _ (by omega) hne
  obtain ⟨post, pre, hsplit, best, after⟩ := pick_tree sw ht
  -- the fold runs over the reversed container: what is behind r there is in front of it in `keys`
  have hsplit : enumFrom 0 keys = pre.reverse ++ r :: post.reverse := by
    rw [← List.reverse_reverse (enumFrom 0 keys), hsplit]
    simp
  have hkeys := congrArg (List.map (·.2)) hsplit
  rw [enumFrom_map_snd, List.map_append, List.map_cons] at hkeys
  refine ⟨r.1, r.2, pre.reverse.map (·.2), post.reverse.map (·.2), hr, hkeys, ?_, ?_, ?_⟩
  · rw [enumFrom_split keys 0 _ _ r hsplit, List.length_map, Nat.zero_add]
  · intro x hx
    obtain ⟨p, hp, rfl⟩ := List.mem_map.mp hx
    exact after p (List.mem_reverse.mp hp)
  · intro x hx
    rw [← enumFrom_map_snd keys 0] at hx
    obtain ⟨p, hp, rfl⟩ := List.mem_map.mp hx
    exact best p (List.mem_reverse.mpr hp)

end CohdlVerif.C18
