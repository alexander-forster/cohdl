import CohdlVerif.Model.Fifo

/-! C14: index arithmetic of the ring buffer (`fifoNext` is `+ 1` modulo `N`), the window of consecutive
  cells that holds the queue, and the refinement relation of the plain Fifo. -/
namespace CohdlVerif.C14

theorem two_pow_log2_le {n : Nat} (h : n ≠ 0) : 2 ^ Nat.log2 n ≤ n := Nat.log2_self_le h

/-- every index `< N` is representable in `Unsigned.upto(N-1)` -/
theorem le_pow_uptoWidth (N : Nat) (hN : 1 ≤ N) : N ≤ 2 ^ uptoWidth (N - 1) := by
  unfold uptoWidth bitLength
  by_cases h : N - 1 = 0
  · simp [h]; omega
  · simp [h]
    have := @Nat.lt_log2_self (N - 1)
    omega

theorem pow_uptoWidth_of_isPowTwo (N : Nat) (hN : 2 ≤ N) (hp : isPowTwo N = true) :
    2 ^ uptoWidth (N - 1) = N := by
  unfold isPowTwo at hp
  simp at hp
  obtain ⟨_, hp⟩ := hp
  have hge := le_pow_uptoWidth N (by omega)
  unfold uptoWidth bitLength at *
  have h1 : N - 1 ≠ 0 := by omega
  simp only [h1, if_false] at *
  -- log2 (N-1) < log2 N since N = 2^k
  have hlt : Nat.log2 (N - 1) < Nat.log2 N := by
    have : N - 1 < 2 ^ Nat.log2 N := by omega
    exact (Nat.log2_lt h1).mpr this
  have hle : 2 ^ (Nat.log2 (N - 1) + 1) ≤ 2 ^ Nat.log2 N := Nat.pow_le_pow_right (by omega) hlt
  omega

theorem fifoNext_eq (N i : Nat) (hN : 2 ≤ N) (hi : i < N) :
    fifoNext N i = if i + 1 < N then i + 1 else 0 := by
  have hge := le_pow_uptoWidth N (by omega)
  unfold fifoNext
  by_cases h : i + 1 < N
  · simp only [Nat.mod_eq_of_lt (Nat.lt_of_lt_of_le h hge), show i ≠ N - 1 by omega, h, ne_eq, not_false_eq_true,
      if_true, ite_self]
  · obtain rfl : i = N - 1 := by omega
    simp only [h, if_false, ne_eq, not_true_eq_false]
    split
    · rw [pow_uptoWidth_of_isPowTwo N hN ‹_›, show N - 1 + 1 = N by omega, Nat.mod_self]
    · rfl

theorem fifoNext_mod (N X : Nat) (hN : 2 ≤ N) : fifoNext N (X % N) = (X + 1) % N := by
  have hlt : X % N < N := Nat.mod_lt _ (by omega)
  rw [fifoNext_eq N (X % N) hN hlt, ← Nat.mod_add_mod X N 1]
  split
  next h => rw [Nat.mod_eq_of_lt h]
  next h => rw [show X % N + 1 = N by omega, Nat.mod_self]

theorem mod_ne_of_lt (N a b : Nat) (h1 : a < b) (h2 : b - a < N) : a % N ≠ b % N := by
  intro h
  have h3 := Nat.sub_mod_eq_zero_of_mod_eq h.symm
  rw [Nat.mod_eq_of_lt h2] at h3
  omega

theorem add_mod_eq_iff {N R d : Nat} (hd : d < N) : (R + d) % N = R % N ↔ d = 0 := by
  constructor
  · intro h
    by_cases h0 : d = 0
    · exact h0
    · exact absurd h.symm (mod_ne_of_lt N R (R + d) (by omega) (by omega))
  · intro h
    rw [h, Nat.add_zero]

theorem getD_eq_head? {mem : List (Option Nat)} {p : Nat} {q : List Nat} (h : mem[p]? = some q[0]?) :
    mem.getD p none = q.head? := by
  rw [List.getD_eq_getElem?_getD, h, List.head?_eq_getElem?, Option.getD_some]

/-- the cells `R, R+1, ..` (mod N) of the ring buffer hold the queue `q`, oldest element first -/
def Window (N : Nat) (mem : List (Option Nat)) (R : Nat) (q : List Nat) : Prop :=
  ∀ i, i < q.length → mem[(R + i) % N]? = some q[i]?

variable {N R : Nat} {mem : List (Option Nat)} {q : List Nat}

theorem Window.nil : Window N mem R [] := by
  intro i hi
  exact absurd hi (Nat.not_lt_zero i)

theorem Window.pop (h : Window N mem R q) : Window N mem (R + 1) q.tail := by
  intro i hi
  rw [List.length_tail] at hi
  rw [List.getElem?_tail, Nat.add_right_comm]
  exact h (i + 1) (by omega)

/-- the written cell is none of the window's, because the window does not fill the buffer -/
theorem Window.push (h : Window N mem R q) (hlen : mem.length = N) (hq : q.length < N) (v : Nat) :
    Window N (mem.set ((R + q.length) % N) (some v)) R (q ++ [v]) := by
  intro i hi
  rw [List.length_append, List.length_singleton] at hi
  by_cases hlt : i < q.length
  · rw [List.getElem?_set_ne (mod_ne_of_lt N _ _ (by omega) (by omega)).symm, List.getElem?_append_left hlt]
    exact h i hlt
  · have hi : i = q.length := by omega
    subst hi
    rw [List.getElem?_set_self (by rw [hlen]; exact Nat.mod_lt _ (by omega)),
      List.getElem?_append_right (Nat.le_refl _), Nat.sub_self]
    rfl

theorem Window.head (h : Window N mem R q) (hq : q ≠ []) : mem.getD (R % N) none = q.head? :=
  getD_eq_head? (h 0 (List.length_pos_iff.mpr hq))

/-- position of the i-th queued element in the ring buffer -/
def pos (N rd i : Nat) : Nat := if rd + i < N then rd + i else rd + i - N

/-- refinement relation between the concrete Fifo registers and the abstract queue -/
structure Rel (N : Nat) (s : Fifo) (a : Queue) : Prop where
  wr_lt : s.wr < N
  rd_lt : s.rd < N
  len : s.mem.length = N
  cap : a.q.length < N
  wr_eq : s.wr = pos N s.rd a.q.length
  elems : ∀ i, i < a.q.length → s.mem[pos N s.rd i]? = some a.q[i]?
  out_eq : s.dout = a.out

def runF (N : Nat) : Fifo → List FOp → Fifo := List.foldl (Fifo.step N)
def runQ : Queue → List FOp → Queue := List.foldl Queue.step

/-- every prefix of the operation sequence respects the documented preconditions -/
def legalSeq (N : Nat) : Queue → List FOp → Prop
  | _, [] => True
  | a, op :: ops => a.legal N op = true ∧ legalSeq N (a.step op) ops

theorem pos_mod (R : Nat) {i : Nat} (hi : i < N) : pos N (R % N) i = (R + i) % N := by
  have hr : R % N < N := Nat.mod_lt _ (by omega)
  rw [← Nat.mod_add_mod R N i, pos]
  split
  next h => rw [Nat.mod_eq_of_lt h]
  next h => rw [Nat.mod_eq_sub_mod (Nat.le_of_not_lt h), Nat.mod_eq_of_lt (a := R % N + i - N) (by omega)]

/-- `Rel` with both indices as counters modulo `N`: the form the window lemmas apply to -/
theorem rel_iff {s : Fifo} {a : Queue} :
    Rel N s a ↔ ∃ R, s.wr = (R + a.q.length) % N ∧ s.rd = R % N ∧ s.mem.length = N ∧ a.q.length < N ∧
      Window N s.mem R a.q ∧ s.dout = a.out := by
  constructor
  · intro ⟨_, hrd, hlen, hcap, hweq, hel, hout⟩
    have hr := (Nat.mod_eq_of_lt hrd).symm
    refine ⟨s.rd, ?_, hr, hlen, hcap, ?_, hout⟩
    · rw [hweq, ← pos_mod s.rd hcap, ← hr]
    · intro i hi
      rw [← pos_mod s.rd (by omega), ← hr]
      exact hel i hi
  · intro ⟨R, hwr, hrd, hlen, hcap, hw, hout⟩
    have hN : 0 < N := by omega
    refine ⟨hwr ▸ Nat.mod_lt _ hN, hrd ▸ Nat.mod_lt _ hN, hlen, hcap, ?_, ?_, hout⟩
    · rw [hwr, hrd, pos_mod R hcap]
    · intro i hi
      rw [hrd, pos_mod R (by omega)]
      exact hw i hi

theorem Rel.front {s : Fifo} {a : Queue} (h : Rel N s a) (hq : a.q ≠ []) : s.front = a.q.head? := by
  obtain ⟨R, _, hrd, _, _, hw, _⟩ := rel_iff.mp h
  rw [Fifo.front, hrd]
  exact hw.head hq

end CohdlVerif.C14
