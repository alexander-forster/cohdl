import CohdlVerif.Model.Coro

/-! C01 - the reference interpreter: its fuel only has to be large enough (`run_mono_le`), and `RunTo`, the steps of
  `run` that cost no clock. -/
namespace CohdlVerif.C01

variable {σ : Type} (act : Nat → σ → σ) (cond : Nat → σ → Bool)

/-- a conditional whose branches keep a result keeps it -/
theorem ite_some_mono {α : Type} {c : Prop} [Decidable c] {a a' b b' : Option α} {x : α}
    (ha : a = some x → a' = some x) (hb : b = some x → b' = some x)
    (h : (if c then a else b) = some x) : (if c then a' else b') = some x := by
  split <;> rename_i hc
  · exact ha (by rwa [if_pos hc] at h)
  · exact hb (by rwa [if_neg hc] at h)

/- The steps of `run` hold by unfolding its definition: they are stated (where a proof needs to rewrite with them)
   and used as `rfl`.  `simp [run]` would build the equation lemmas of the 24 overlapping cases in every proof. -/

theorem run_ite (f c : Nat) (t e k : Stmt) (st : List Frame) (fr : Bool) (s : σ) :
    run act cond (f+1) (.ite c t e k) st fr s =
      if cond c s then run act cond f t (.seq k :: st) false s else run act cond f e (.seq k :: st) false s := rfl

theorem run_await_fresh (f : Nat) (c : Option Nat) (k : Stmt) (st : List Frame) (s : σ) :
    run act cond (f+1) (.await c k) st true s =
      if evalC cond c s then run act cond f k st c.isNone s else some (.atAwait c k st, s) := rfl

theorem run_while_fresh (f : Nat) (c : Option Nat) (b k : Stmt) (st : List Frame) (s : σ) :
    run act cond (f+1) (.while_ c b k) st true s =
      if evalC cond c s then run act cond f b (.loop c b k :: st) false s else run act cond f k st false s := rfl

theorem run_cont_loop (f : Nat) (c : Option Nat) (b k : Stmt) (st : List Frame) (fr : Bool) (s : σ) :
    run act cond (f+1) .cont (.loop c b k :: st) fr s =
      if evalC cond c s then run act cond f b (.loop c b k :: st) false s else run act cond f k st false s := rfl

theorem run_mono : ∀ (f : Nat) (p : Stmt) (st : List Frame) (fr : Bool) (s : σ) (x : Susp × σ),
    run act cond f p st fr s = some x → run act cond (f+1) p st fr s = some x := by
  intro f
  induction f with
  | zero => intro p st fr s x h; exact nomatch h
  | succ f ih =>
    intro p st fr s x h
    cases p with
    | skip =>
      cases st with
      | nil => exact h
      | cons fr0 st =>
        cases fr0 with
        | seq k => exact ih _ _ _ _ _ h
        | loop c b k => exact h
        | callF k => exact ih _ _ _ _ _ h
    | act a k => exact ih _ _ _ _ _ h
    | await c k =>
      cases fr with
      | false => exact h
      | true => rw [run_await_fresh] at h ⊢; exact ite_some_mono (ih _ _ _ _ _) id h
    | awaitF => exact h
    | ite c t e k => rw [run_ite] at h ⊢; exact ite_some_mono (ih _ _ _ _ _) (ih _ _ _ _ _) h
    | while_ c b k =>
      cases fr with
      | false => exact h
      | true => rw [run_while_fresh] at h ⊢; exact ite_some_mono (ih _ _ _ _ _) (ih _ _ _ _ _) h
    | brk =>
      cases st with
      | nil => exact h
      | cons fr0 st => cases fr0 <;> exact ih _ _ _ _ _ h
    | cont =>
      cases st with
      | nil => exact h
      | cons fr0 st =>
        cases fr0 with
        | seq k => exact ih _ _ _ _ _ h
        | callF k => exact ih _ _ _ _ _ h
        | loop c b k => rw [run_cont_loop] at h ⊢; exact ite_some_mono (ih _ _ _ _ _) (ih _ _ _ _ _) h
    | ret =>
      cases st with
      | nil => exact h
      | cons fr0 st => cases fr0 <;> exact ih _ _ _ _ _ h
    | call b k => exact ih _ _ _ _ _ h

theorem run_mono_le (f f' : Nat) (hle : f ≤ f') (p : Stmt) (st : List Frame) (fr : Bool) (s : σ) (x : Susp × σ)
    (h : run act cond f p st fr s = some x) : run act cond f' p st fr s = some x := by
  induction hle with
  | refl => exact h
  | step _ ih => exact run_mono act cond _ _ _ _ _ _ ih

/-- the reference reaches from `(q, st, fr, s)` whatever it reaches from `(q', st', fr', s')` -/
def RunTo (q : Stmt) (st : List Frame) (fr : Bool) (s : σ) (q' : Stmt) (st' : List Frame) (fr' : Bool) (s' : σ) : Prop :=
  ∀ f y, run act cond f q' st' fr' s' = some y → ∃ f', run act cond f' q st fr s = some y

theorem RunTo.refl (q : Stmt) (st : List Frame) (fr : Bool) (s : σ) : RunTo act cond q st fr s q st fr s :=
  fun f y h => ⟨f, h⟩

theorem RunTo.trans {q q1 q2 : Stmt} {st st1 st2 : List Frame} {fr fr1 fr2 : Bool} {s s1 s2 : σ}
    (h1 : RunTo act cond q st fr s q1 st1 fr1 s1) (h2 : RunTo act cond q1 st1 fr1 s1 q2 st2 fr2 s2) :
    RunTo act cond q st fr s q2 st2 fr2 s2 :=
  fun f y h => by obtain ⟨f1, hf1⟩ := h2 f y h; exact h1 f1 y hf1

theorem RunTo.act_ (a : Nat) (k : Stmt) (st : List Frame) (fr : Bool) (s : σ) :
    RunTo act cond (.act a k) st fr s k st false (act a s) :=
  fun f _ h => ⟨f+1, h⟩

theorem RunTo.skip_seq (k : Stmt) (st : List Frame) (fr : Bool) (s : σ) :
    RunTo act cond .skip (.seq k :: st) fr s k st fr s :=
  fun f _ h => ⟨f+1, h⟩

theorem RunTo.ite_true (c : Nat) (t e k : Stmt) (st : List Frame) (fr : Bool) (s : σ) (hc : cond c s = true) :
    RunTo act cond (.ite c t e k) st fr s t (.seq k :: st) false s :=
  fun f _ h => ⟨f+1, by rw [run_ite, if_pos hc]; exact h⟩

theorem RunTo.ite_false (c : Nat) (t e k : Stmt) (st : List Frame) (fr : Bool) (s : σ) (hc : cond c s = false) :
    RunTo act cond (.ite c t e k) st fr s e (.seq k :: st) false s :=
  fun f _ h => ⟨f+1, by rw [run_ite, hc]; exact h⟩

theorem RunTo.await_fresh_none (k : Stmt) (st : List Frame) (s : σ) :
    RunTo act cond (.await none k) st true s k st true s :=
  fun f _ h => ⟨f+1, h⟩

theorem RunTo.await_fresh_some (c : Nat) (k : Stmt) (st : List Frame) (s : σ) (hc : cond c s = true) :
    RunTo act cond (.await (some c) k) st true s k st false s :=
  fun f _ h => ⟨f+1, by rw [run_await_fresh, if_pos (show evalC cond (some c) s = true from hc)]; exact h⟩

theorem run_await_susp (cc : Option Nat) (k : Stmt) (st : List Frame) (s0 : σ) :
    run act cond 1 (.await cc k) st false s0 = some (.atAwait cc k st, s0) := rfl

theorem run_await_fresh_false (c : Nat) (k : Stmt) (st : List Frame) (s0 : σ) (hc : cond c s0 = false) :
    run act cond 1 (.await (some c) k) st true s0 = some (.atAwait (some c) k st, s0) := by
  rw [run_await_fresh]; exact if_neg (by simp [evalC, hc])

theorem run_while_susp (c : Option Nat) (b k : Stmt) (st : List Frame) (s0 : σ) :
    run act cond 1 (.while_ c b k) st false s0 = some (.atHead c b k st, s0) := rfl

theorem run_skip_loop (c : Option Nat) (b k : Stmt) (st : List Frame) (fr : Bool) (s0 : σ) :
    run act cond 1 .skip (.loop c b k :: st) fr s0 = some (.atHead c b k st, s0) := rfl

theorem RunTo.while_fresh_true (c : Option Nat) (b k : Stmt) (st : List Frame) (s0 : σ)
    (hc : evalC cond c s0 = true) : RunTo act cond (.while_ c b k) st true s0 b (.loop c b k :: st) false s0 :=
  fun f _ h => ⟨f+1, by rw [run_while_fresh, if_pos hc]; exact h⟩

theorem RunTo.while_fresh_false (c : Option Nat) (b k : Stmt) (st : List Frame) (s0 : σ)
    (hc : evalC cond c s0 = false) : RunTo act cond (.while_ c b k) st true s0 k st false s0 :=
  fun f _ h => ⟨f+1, by rw [run_while_fresh, hc]; exact h⟩

theorem RunTo.brk_seq (k : Stmt) (st : List Frame) (fr : Bool) (s : σ) :
    RunTo act cond .brk (.seq k :: st) fr s .brk st fr s := fun f _ h => ⟨f+1, h⟩

theorem RunTo.cont_seq (k : Stmt) (st : List Frame) (fr : Bool) (s : σ) :
    RunTo act cond .cont (.seq k :: st) fr s .cont st fr s := fun f _ h => ⟨f+1, h⟩

theorem RunTo.ret_seq (k : Stmt) (st : List Frame) (fr : Bool) (s : σ) :
    RunTo act cond .ret (.seq k :: st) fr s .ret st fr s := fun f _ h => ⟨f+1, h⟩

theorem RunTo.ret_loop (c : Option Nat) (b k : Stmt) (st : List Frame) (fr : Bool) (s : σ) :
    RunTo act cond .ret (.loop c b k :: st) fr s .ret st fr s := fun f _ h => ⟨f+1, h⟩

theorem RunTo.brk_loop (c : Option Nat) (b k : Stmt) (st : List Frame) (fr : Bool) (s : σ) :
    RunTo act cond .brk (.loop c b k :: st) fr s k st false s := fun f _ h => ⟨f+1, h⟩

theorem RunTo.ret_call (k : Stmt) (st : List Frame) (fr : Bool) (s : σ) :
    RunTo act cond .ret (.callF k :: st) fr s k st fr s := fun f _ h => ⟨f+1, h⟩

theorem RunTo.skip_call (k : Stmt) (st : List Frame) (fr : Bool) (s : σ) :
    RunTo act cond .skip (.callF k :: st) fr s k st fr s := fun f _ h => ⟨f+1, h⟩

theorem RunTo.call_ (b k : Stmt) (st : List Frame) (fr : Bool) (s : σ) :
    RunTo act cond (.call b k) st fr s b (.callF k :: st) fr s := fun f _ h => ⟨f+1, h⟩

theorem RunTo.cont_loop_true (c : Option Nat) (b k : Stmt) (st : List Frame) (fr : Bool) (s : σ)
    (hc : evalC cond c s = true) : RunTo act cond .cont (.loop c b k :: st) fr s b (.loop c b k :: st) false s :=
  fun f _ h => ⟨f+1, by rw [run_cont_loop, if_pos hc]; exact h⟩

theorem RunTo.cont_loop_false (c : Option Nat) (b k : Stmt) (st : List Frame) (fr : Bool) (s : σ)
    (hc : evalC cond c s = false) : RunTo act cond .cont (.loop c b k :: st) fr s k st false s :=
  fun f _ h => ⟨f+1, by rw [run_cont_loop, hc]; exact h⟩

theorem refStep_mono_le (prog : Stmt) (f f' : Nat) (hle : f ≤ f') (r : Susp) (s : σ) (x : Susp × σ)
    (h : refStep act cond f prog r s = some x) : refStep act cond f' prog r s = some x := by
  cases r with
  | start => exact run_mono_le act cond f f' hle _ _ _ _ _ h
  | atAwait c k st => exact ite_some_mono (run_mono_le act cond f f' hle _ _ _ _ _) id h
  | atHead c b k st =>
    exact ite_some_mono (run_mono_le act cond f f' hle _ _ _ _ _) (run_mono_le act cond f f' hle _ _ _ _ _) h
  | stopped => exact h

theorem run_jump_fr {p : Stmt} (hp : p = .brk ∨ p = .cont) : ∀ (f : Nat) (st : List Frame) (fr fr' : Bool) (s : σ),
    run act cond f p st fr s = run act cond f p st fr' s := by
  rcases hp with rfl | rfl
  all_goals
    intro f
    induction f with
    | zero => intro st fr fr' s; rfl
    | succ f ih =>
      intro st fr fr' s
      cases st with
      | nil => rfl
      | cons fr0 st =>
        cases fr0 with
        | seq k => exact ih _ _ _ _
        | loop c b k => rfl
        | callF k => exact ih _ _ _ _

theorem RunTo.brk_call (k : Stmt) (st : List Frame) (fr fr' : Bool) (s : σ) :
    RunTo act cond .brk (.callF k :: st) fr s .brk st fr' s :=
  fun f _ h => ⟨f+1, (run_jump_fr act cond (.inl rfl) f st fr fr' s).trans h⟩

theorem RunTo.cont_call (k : Stmt) (st : List Frame) (fr fr' : Bool) (s : σ) :
    RunTo act cond .cont (.callF k :: st) fr s .cont st fr' s :=
  fun f _ h => ⟨f+1, (run_jump_fr act cond (.inr rfl) f st fr fr' s).trans h⟩

end CohdlVerif.C01
