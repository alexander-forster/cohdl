import CohdlVerif.Model.C13Views
/-! C13 part B - helper lemmas: writes through index lists, the ref-spec invariant of derived views -/
namespace CohdlVerif.C13

theorem write_length {α : Type} : ∀ (cs : List Nat) (s vals : List α), (write s cs vals).length = s.length := by
  intro cs
  induction cs with
  | nil => intro s vals; simp [write]
  | cons c cs ih =>
    intro s vals
    cases vals with
    | nil => simp [write]
    | cons x xs => simp [write, ih]

theorem write_get_not_mem {α : Type} : ∀ (cs : List Nat) (s vals : List α) (i : Nat), i ∉ cs →
    (write s cs vals)[i]? = s[i]? := by
  intro cs
  induction cs with
  | nil => intro s vals i _; simp [write]
  | cons c cs ih =>
    intro s vals i hi
    cases vals with
    | nil => simp [write]
    | cons x xs =>
      simp only [List.mem_cons, not_or] at hi
      simp only [write]
      rw [ih _ _ _ hi.2, List.getElem?_set_ne (Ne.symm hi.1)]

theorem read_write {α : Type} : ∀ (cs : List Nat) (s vals : List α), cs.Nodup → cs.length = vals.length →
    (∀ c ∈ cs, c < s.length) → read (write s cs vals) cs = vals.map some := by
  intro cs
  induction cs with
  | nil => intro s vals _ hlen _; rw [List.length_eq_zero_iff.mp hlen.symm]; rfl
  | cons c cs ih =>
    intro s vals hnd hlen hlt
    cases vals with
    | nil => cases hlen
    | cons x xs =>
      obtain ⟨hc, hnd⟩ := List.nodup_cons.mp hnd
      show (write (s.set c x) cs xs)[c]? :: read (write (s.set c x) cs xs) cs = some x :: xs.map some
      rw [write_get_not_mem _ _ _ _ hc, List.getElem?_set_self (hlt c (by simp)),
        ih _ xs hnd (by simpa using hlen) fun c' hc' => by simpa using hlt c' (by simp [hc'])]

/-- the invariant of every view derived from a root of width `W`: its cells are exactly the contiguous range
    its (simplified) last ref-spec denotes, inside the root, and Bit views are exactly the `Offset` ones -/
def RefOK (W : Nat) (v : View) : Prop :=
  match v.ref.getLast? with
  | none => v.cells = List.range' 0 W ∧ v.vt ≠ .bit
  | some (.offset o b) => v.cells = [o + b.sum] ∧ o + b.sum < W ∧ v.vt = .bit
  | some (.slice s t b) => v.cells = List.range' (t + b.sum) (s + 1 - t) ∧ s + b.sum < W ∧ t ≤ s ∧ v.vt ≠ .bit

theorem rootView_ok (id : Nat) (q : Qual) (vt : VT) (W : Nat) (h : vt ≠ .bit) : RefOK W (rootView id q vt W) := by
  simp [RefOK, rootView, h]

theorem resolve_of_ok (W : Nat) (v : View) (h : RefOK W v) : resolve W v = v.cells := by
  unfold RefOK at h
  unfold resolve
  split at h
  · next heq => simp [heq, h.1]
  · next o b heq => simp [heq, Ref.simplify, h.1]
  · next s t b heq =>
    simp only [heq, Ref.simplify, List.sum_nil, Nat.add_zero, h.1]
    congr 1
    omega

theorem drop_take_range' (a n l m : Nat) (h : l + m ≤ n) :
    ((List.range' a n).drop l).take m = List.range' (a + l) m := by
  rw [List.drop_range']
  simp only [Nat.mul_one]
  exact List.take_range'_of_length_ge (by omega)

/-- vector views (no Bit) have a `Slice` or empty ref-spec, and their cells are a contiguous range -/
theorem vec_cells (W : Nat) (v : View) (h : RefOK W v) (hv : v.vt ≠ .bit) :
    ∃ a n base prev, v.cells = List.range' a n ∧ a + n ≤ W ∧ splitRef v.ref = (prev, base) ∧ a = base.sum := by
  unfold RefOK at h
  split at h
  · next heq => exact ⟨0, W, [], v.ref, h.1, by omega, by simp [splitRef, heq], by simp⟩
  · next o b heq => exact absurd h.2.2 hv
  · next s t b heq =>
    refine ⟨t + b.sum, s + 1 - t, b ++ [t], v.ref.dropLast, h.1, by omega, by simp [splitRef, heq], ?_⟩
    simp [List.sum_append]; omega

theorem index_ok (W : Nat) (v v' : View) (i : Nat) (h : RefOK W v) (ha : applyOp v (.index i) = some v') : RefOK W v' := by
  simp only [applyOp] at ha
  split at ha
  · simp at ha
  · next hc =>
    simp only [not_or, Nat.not_le] at hc
    obtain ⟨a, n, base, prev, hcells, hbound, hsplit, hsum⟩ := vec_cells W v h hc.1
    simp only [hsplit, Option.some.injEq] at ha
    subst ha
    have hlen : i < n := by simpa [hcells] using hc.2
    simp only [RefOK, List.getLast?_concat]
    refine ⟨?_, by omega, trivial⟩
    rw [hcells, drop_take_range' a n i 1 (by omega), hsum, Nat.add_comm]; rfl

/-- a cast keeps cells and ref-spec, and neither starts from nor yields a Bit -/
theorem cast_ok (W : Nat) (v v' : View) (vt : VT) (hvt : vt ≠ .bit) (h : RefOK W v)
    (ha : (if v.vt = .bit then none else some { v with vt := vt }) = some v') : RefOK W v' := by
  split at ha
  · simp at ha
  · next hc =>
    simp only [Option.some.injEq] at ha; subst ha
    unfold RefOK at h ⊢
    split at h <;> simp_all

/-- when `x[h:l]` is accepted, and what it yields -/
theorem applyOp_slice_some (v v' : View) (h l : Nat) :
    applyOp v (.slice h l) = some v' ↔
      (v.vt ≠ .bit ∧ l ≤ h ∧ h < v.cells.length) ∧
      v' = { v with vt := .bv, cells := (v.cells.drop l).take (h + 1 - l),
                    ref := (splitRef v.ref).1 ++ [.slice h l (splitRef v.ref).2] } := by
  rw [applyOp]
  split
  · next hc => exact ⟨fun hn => (nomatch hn), fun hn => absurd hc (by simp only [not_or, Nat.not_lt, Nat.not_le]; exact hn.1)⟩
  · next hc =>
    simp only [not_or, Nat.not_lt, Nat.not_le] at hc
    exact ⟨fun hs => ⟨hc, (Option.some.inj hs).symm⟩, fun hs => hs.2 ▸ rfl⟩

theorem applyOp_ok (W : Nat) (v v' : View) (op : Op) (h : RefOK W v) (ha : applyOp v op = some v') : RefOK W v' := by
  cases op with
  | slice hi lo =>
    obtain ⟨⟨hb, hl, hlen⟩, rfl⟩ := (applyOp_slice_some v v' hi lo).mp ha
    obtain ⟨a, n, base, prev, hcells, hbound, hsplit, hsum⟩ := vec_cells W v h hb
    rw [hcells, List.length_range'] at hlen
    simp only [RefOK, hsplit, List.getLast?_concat]
    refine ⟨?_, by omega, hl, by simp⟩
    rw [hcells, drop_take_range' a n lo (hi + 1 - lo) (by omega), hsum, Nat.add_comm]
  | index i => exact index_ok W v v' i h ha
  -- iteration yields the same view as indexing
  | iter i => exact index_ok W v v' i h ha
  | unsigned => exact cast_ok W v v' .uns (by decide) h ha
  | signed => exact cast_ok W v v' .sgn (by decide) h ha
  | bitvector => exact cast_ok W v v' .bv (by decide) h ha

theorem applyOps_cons_some (v v' : View) (op : Op) (ops : List Op) :
    applyOps v (op :: ops) = some v' ↔ ∃ v1, applyOp v op = some v1 ∧ applyOps v1 ops = some v' := by
  rw [applyOps]
  cases applyOp v op <;> simp

/-- what every accepted operation preserves, every accepted chain preserves -/
theorem applyOps_induct {P : View → Prop} (hstep : ∀ v v' op, P v → applyOp v op = some v' → P v') :
    ∀ (ops : List Op) (v v' : View), P v → applyOps v ops = some v' → P v' := by
  intro ops
  induction ops with
  | nil => intro v v' h ha; exact Option.some.inj ha ▸ h
  | cons op ops ih =>
    intro v v' h ha
    obtain ⟨v1, h1, ha⟩ := (applyOps_cons_some v v' op ops).mp ha
    exact ih v1 v' (hstep v v1 op h h1) ha

theorem applyOps_ok (W : Nat) : ∀ (ops : List Op) (v v' : View), RefOK W v → applyOps v ops = some v' → RefOK W v' :=
  applyOps_induct (applyOp_ok W)

theorem applyOp_root_qual {r : Nat} {q : Qual} (v v' : View) (op : Op) (h : v.root = r ∧ v.qual = q)
    (ha : applyOp v op = some v') : v'.root = r ∧ v'.qual = q := by
  cases op <;> simp only [applyOp] at ha <;> split at ha <;> simp at ha <;> subst ha <;> exact h

theorem applyOps_root_qual (ops : List Op) (v v' : View) (ha : applyOps v ops = some v') : v'.root = v.root ∧ v'.qual = v.qual :=
  applyOps_induct (P := fun u => u.root = v.root ∧ u.qual = v.qual) applyOp_root_qual ops v v' ⟨rfl, rfl⟩ ha

theorem cells_of_ok (W : Nat) (v : View) (h : RefOK W v) : v.cells.Nodup ∧ ∀ c ∈ v.cells, c < W := by
  unfold RefOK at h
  split at h
  · rw [h.1]; exact ⟨List.nodup_range' 1, by intro c hc; simp [List.mem_range'_1] at hc; omega⟩
  · rw [h.1]; exact ⟨by simp, by intro c hc; simp at hc; omega⟩
  · rw [h.1]; exact ⟨List.nodup_range' 1, by intro c hc; simp [List.mem_range'_1] at hc; omega⟩

theorem applyOps_append (v : View) (ops1 ops2 : List Op) :
    applyOps v (ops1 ++ ops2) = (applyOps v ops1).bind (fun u => applyOps u ops2) := by
  induction ops1 generalizing v with
  | nil => simp [applyOps]
  | cons op ops ih =>
    simp only [List.cons_append, applyOps]
    split <;> simp [ih]

/-- a slice of a slice is the single slice with the offsets added (cells, kind, root, qualifier) -/
theorem slice_slice (u v1 v2 : View) (h1 l1 h2 l2 : Nat) (hu : applyOp u (.slice h1 l1) = some v1)
    (hw : applyOp v1 (.slice h2 l2) = some v2) :
    ∃ v', applyOp u (.slice (h2 + l1) (l2 + l1)) = some v' ∧
      v'.cells = v2.cells ∧ v'.vt = v2.vt ∧ v'.root = v2.root ∧ v'.qual = v2.qual := by
  obtain ⟨⟨hb1, hl1, hlen1⟩, rfl⟩ := (applyOp_slice_some u v1 h1 l1).mp hu
  obtain ⟨⟨_, hl2, hlen2⟩, rfl⟩ := (applyOp_slice_some _ v2 h2 l2).mp hw
  simp only [List.length_take, List.length_drop] at hlen2
  obtain ⟨hlen2a, hlen2b⟩ := Nat.lt_min.mp hlen2
  refine ⟨_, (applyOp_slice_some u _ _ _).mpr ⟨⟨hb1, Nat.add_le_add_right hl2 l1, Nat.add_lt_of_lt_sub hlen2b⟩, rfl⟩,
    ?_, rfl, rfl, rfl⟩
  simp only [List.drop_take, List.take_take, List.drop_drop]
  rw [Nat.add_comm l1 l2]
  congr 1
  clear hu hw
  rw [Nat.add_right_comm h2 l1 1, Nat.add_sub_add_right]
  exact (Nat.min_eq_left (Nat.sub_le_sub_right hlen2a l2)).symm

end CohdlVerif.C13
