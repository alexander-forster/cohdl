import CohdlVerif.Model.C03

/-! C03 - lemmas about expressions, the source-level semantics `exec` and the lowering `lowerK` -/
namespace CohdlVerif.C03

theorem bitsToNat_testBit (v w : Nat) : bitsToNat (fun b => v.testBit b) w = v % 2 ^ w := by
  induction w with
  | zero => exact (Nat.mod_one v).symm
  | succ w ih =>
    rw [bitsToNat, ih, Nat.mod_pow_succ, Nat.testBit_eq_decide_div_mod_eq]
    rcases Nat.mod_two_eq_zero_or_one (v / 2 ^ w) with h | h <;> simp [h]

theorem bitsToNat_congr (f g : Nat → Bool) : ∀ w, (∀ b, b < w → f b = g b) → bitsToNat f w = bitsToNat g w := by
  intro w
  induction w with
  | zero => intro _; rfl
  | succ w ih =>
    intro h
    simp only [bitsToNat]
    rw [ih (fun b hb => h b (by omega)), h w (by omega)]

theorem bitsToNat_range (f : Loc → Bool) (v obj i lo w : Nat)
    (h : ∀ l, inRange l obj i lo w = true → f l = v.testBit (l.2.2 - lo)) :
    bitsToNat (fun b => f (obj, i, lo + b)) w = v % 2 ^ w := by
  rw [← bitsToNat_testBit]
  apply bitsToNat_congr
  intro b hb
  rw [h _ (by simp [inRange, hb]), Nat.add_sub_cancel_left]

theorem writeBits_other {α : Type} {f : Loc → α} {obj i lo w : Nat} {g : Nat → α} {l : Loc}
    (h : (obj == l.1) = false) : writeBits f obj i lo w g l = f l := by
  rw [BEq.comm] at h
  simp only [writeBits, inRange, h, Bool.false_and, Bool.false_eq_true, if_false]

theorem eval_agree (e : Expr) (s s' : St) (hv : s.var = s'.var) (ht : s.tmp = s'.tmp)
    (h : ∀ l : Loc, readsSig e l.1 = true → s.sig l = s'.sig l) : eval e s = eval e s' := by
  induction e with
  | rd sp obj idx lo w ih =>
    simp only [eval]
    rw [ih (fun l hl => h l (by simp [readsSig, hl]))]
    apply bitsToNat_congr
    intro b _
    cases sp with
    | sig => exact h _ (by simp [readsSig])
    | var => simp only [store, hv]
  | const n => rfl
  | tmp k => exact congrFun ht k
  | slice e _ _ ih | not e ih => simp only [eval, ih h]
  | add _ a b iha ihb | eq a b iha ihb | and a b iha ihb | or a b iha ihb | cat a _ b iha ihb =>
    simp only [readsSig, Bool.or_eq_true, or_imp, forall_and] at h
    simp only [eval, iha h.1, ihb h.2]
  | sel c a b ihc iha ihb =>
    simp only [readsSig, Bool.or_eq_true, or_imp, forall_and] at h
    simp only [eval, ihc h.1.1, iha h.1.2, ihb h.2]

/-- expressions that read signals only (no variable, no temporary) -/
def sigOnly : Expr → Bool
  | .const _ => true
  | .rd sp _ idx _ _ => sp == .sig && sigOnly idx
  | .tmp _ => false
  | .slice e _ _ => sigOnly e
  | .add _ a b => sigOnly a && sigOnly b
  | .eq a b => sigOnly a && sigOnly b
  | .not a => sigOnly a
  | .and a b => sigOnly a && sigOnly b
  | .or a b => sigOnly a && sigOnly b
  | .sel c a b => sigOnly c && sigOnly a && sigOnly b
  | .cat a _ b => sigOnly a && sigOnly b

theorem eval_sigOnly (e : Expr) (s s' : St) (h : sigOnly e = true) (hs : s.sig = s'.sig) : eval e s = eval e s' := by
  induction e with
  | rd sp obj idx lo w ih =>
    simp only [sigOnly, Bool.and_eq_true, beq_iff_eq] at h
    simp only [eval, ih h.2, h.1, store, hs]
  | const n => rfl
  | tmp k => cases h
  | slice e _ _ ih | not e ih => simp only [eval, ih h]
  | add _ a b iha ihb | eq a b iha ihb | and a b iha ihb | or a b iha ihb | cat a _ b iha ihb =>
    simp only [sigOnly, Bool.and_eq_true] at h
    simp only [eval, iha h.1, ihb h.2]
  | sel c a b ihc iha ihb =>
    simp only [sigOnly, Bool.and_eq_true] at h
    simp only [eval, ihc h.1.1, iha h.1.2, ihb h.2]

theorem doAssign_sig (m : Mode) (t : Target) (v : Nat) (s : St) : (doAssign m t v s).sig = s.sig := by
  cases m <;> rfl

theorem doAssign_tmp (m : Mode) (t : Target) (v : Nat) (s : St) : (doAssign m t v s).tmp = s.tmp := by
  cases m <;> rfl

theorem exec_seq (a b : Stmt) (s : St) :
    exec (.seq a b) s = if (exec a s).2 then exec a s else exec b (exec a s).1 := rfl

theorem exec_ite (c : Expr) (t e : Stmt) (s : St) :
    exec (.ite c t e) s = if eval c s != 0 then exec t s else exec e s := rfl

theorem exec_mcase (subj : Expr) (pat : Nat) (b rest : Stmt) (s : St) :
    exec (.mcase subj pat b rest) s = if eval subj s == pat then exec b s else exec rest s := rfl

theorem exec_sig (p : Stmt) (s : St) : (exec p s).1.sig = s.sig := by
  induction p generalizing s with
  | seq a b iha ihb =>
    rw [exec_seq]
    split
    · exact iha s
    · rw [ihb, iha]
  | assign m t e => exact doAssign_sig ..
  | ite _ t e iht ihe | mcase _ _ t e iht ihe =>
    simp only [exec_ite, exec_mcase]
    split
    · exact iht s
    · exact ihe s
  | call body ih => exact ih s
  | _ => rfl

/-- syntactic: some signal assignment / push / local declaration in `p` targets object `o` -/
def writesObj : Stmt → Nat → Bool
  | .skip, _ => false
  | .seq a b, o => writesObj a o || writesObj b o
  | .assign m t _, o => m != .value && t.obj == o
  | .ite _ t e, o => writesObj t o || writesObj e o
  | .mcase _ _ b rest, o => writesObj b o || writesObj rest o
  | .ret _ _, _ => false
  | .call body, o => writesObj body o
  | .capture _ _, _ => false
  | .declSig obj _ _ _, o => obj == o

theorem exec_pend_frame (p : Stmt) (s : St) (l : Loc) (h : writesObj p l.1 = false) :
    (exec p s).1.pend l = s.pend l := by
  induction p generalizing s with
  | seq a b iha ihb =>
    have h := Bool.or_eq_false_iff.mp h
    simp only [exec]
    split
    · exact iha s h.1
    · rw [ihb _ h.2, iha s h.1]
  | assign m t e =>
    cases m with
    | value => rfl
    | _ =>
      simp only [exec, doAssign]
      exact writeBits_other h
  | ite _ t e iht ihe | mcase _ _ t e iht ihe =>
    have h := Bool.or_eq_false_iff.mp h
    simp only [exec]
    split
    · exact iht s h.1
    · exact ihe s h.2
  | call body ih => exact ih s h
  | declSig obj k w init =>
    simp only [exec]
    exact writeBits_other h
  | _ => rfl

/-- syntactic: `p` assigns temporary `k` -/
def capturesTmp : Stmt → Nat → Bool
  | .skip, _ => false
  | .seq a b, k => capturesTmp a k || capturesTmp b k
  | .assign _ _ _, _ => false
  | .ite _ t e, k => capturesTmp t k || capturesTmp e k
  | .mcase _ _ b rest, k => capturesTmp b k || capturesTmp rest k
  | .ret res _, k => res == k
  | .call body, k => capturesTmp body k
  | .capture j _, k => j == k
  | .declSig _ j _ _, k => j == k

theorem setTmp_other {f : Nat → Nat} {j k v : Nat} (h : (j == k) = false) : setTmp f j v k = f k := by
  rw [BEq.comm] at h
  simp only [setTmp, h, Bool.false_eq_true, if_false]

theorem exec_tmp_frame (p : Stmt) (s : St) (k : Nat) (h : capturesTmp p k = false) :
    (exec p s).1.tmp k = s.tmp k := by
  induction p generalizing s with
  | seq a b iha ihb =>
    have h := Bool.or_eq_false_iff.mp h
    rw [exec_seq]
    split
    · exact iha s h.1
    · rw [ihb _ h.2, iha s h.1]
  | assign m t e => exact congrFun (doAssign_tmp ..) k
  | ite _ t e iht ihe | mcase _ _ t e iht ihe =>
    have h := Bool.or_eq_false_iff.mp h
    simp only [exec_ite, exec_mcase]
    split
    · exact iht s h.1
    · exact ihe s h.2
  | call body ih => exact ih s h
  | skip => rfl
  | _ => exact setTmp_other h

theorem exec_seq_of_not_ret {p q : Stmt} {s : St} (h : (exec p s).2 = false) :
    exec (.seq p q) s = exec q (exec p s).1 := by
  rw [exec_seq, h]
  rfl

theorem activate_sig (dflt : Loc → Option Bool) (body : Stmt) (s : St) (i : Loc → Option Bool) (l : Loc) :
    (Seq.activate dflt body s i).sig l =
      ((exec body (clearPend (setInputs i s))).1.pend l).getD ((dflt l).getD ((setInputs i s).sig l)) := by
  simp only [Seq.activate, commit, exec_sig]
  cases (exec body (clearPend (setInputs i s))).1.pend l <;> rfl

theorem canRet_false (p : Stmt) (s : St) (h : canRet p = false) : (exec p s).2 = false := by
  induction p generalizing s with
  | seq a b iha ihb =>
    have h := Bool.or_eq_false_iff.mp h
    rw [exec_seq_of_not_ret (iha s h.1)]
    exact ihb _ h.2
  | ite _ t e iht ihe | mcase _ _ t e iht ihe =>
    have h := Bool.or_eq_false_iff.mp h
    simp only [exec_ite, exec_mcase]
    split
    · exact iht s h.1
    · exact ihe s h.2
  | ret res e => cases h
  | _ => rfl

theorem b2n_ne_zero (b : Bool) : (b2n b != 0) = b := by
  cases b <;> rfl

/-- the continuation form of the lowering is correct: the lowered code runs `k` after a normal end of `p` and
    `r` after a `return` -/
theorem lowerK_correct (p : Stmt) (k r : Proc) (s : St) :
    run (lowerK p k r) s = if (exec p s).2 then run r (exec p s).1 else run k (exec p s).1 := by
  induction p generalizing k r s with
  | seq a b iha ihb =>
    rw [exec_seq, lowerK, iha]
    by_cases h : (exec a s).2 = true
    · simp only [h, if_true]
    · simp only [h]
      exact ihb ..
  | assign m t e => cases m <;> rfl
  | ite _ t e iht ihe | mcase _ _ t e iht ihe =>
    simp only [lowerK]
    cases hr : canRet t || canRet e with
    | true =>
      -- a `match` with a branch that may return is emitted as an `if` over `.eq subj (.const pat)`
      simp only [if_true, run, exec_ite, exec_mcase, eval, b2n_ne_zero]
      split
      · exact iht k r s
      · exact ihe k r s
    | false =>
      simp only [Bool.or_eq_false_iff] at hr
      simp only [Bool.false_eq_true, if_false, run, exec_ite, exec_mcase]
      split
      · rw [iht, canRet_false t s hr.1]
        rfl
      · rw [ihe, canRet_false e s hr.2]
        rfl
  | call body ih =>
    show run (lowerK body k k) s = run k (exec body s).1
    rw [ih, ite_self]
  | declSig obj j w init =>
    simp only [lowerK, run, doAssign, eval, setTmp, beq_self_eq_true, if_true]
    rfl
  | _ => rfl

theorem run_lowerSeq (body : Stmt) (s : St) : run (lowerSeq body) s = (exec body s).1 := by
  rw [lowerSeq, lowerK_correct, ite_self]
  rfl

/-- overlay of pending updates on defaults -/
def ov (a b : Option Bool) : Option Bool :=
  match a with
  | some v => some v
  | none => b

def overlay (d : Loc → Option Bool) (s : St) : St := { s with pend := fun l => ov (s.pend l) (d l) }

theorem overlay_sig (d : Loc → Option Bool) (s : St) : (overlay d s).sig = s.sig := rfl
theorem overlay_var (d : Loc → Option Bool) (s : St) : (overlay d s).var = s.var := rfl
theorem overlay_tmp (d : Loc → Option Bool) (s : St) : (overlay d s).tmp = s.tmp := rfl

theorem eval_overlay (e : Expr) (d : Loc → Option Bool) (s : St) : eval e (overlay d s) = eval e s :=
  eval_agree e _ _ (overlay_var d s) (overlay_tmp d s) (fun l _ => congrFun (overlay_sig d s) l)

theorem commit_overlay (d : Loc → Option Bool) (s : St) : commit (fun _ => none) (overlay d s) = commit d s := by
  simp only [commit, overlay, St.mk.injEq, and_true]
  funext l
  cases s.pend l <;> cases d l <;> rfl

theorem writeBits_overlay (f d : Loc → Option Bool) (obj i lo w : Nat) (g : Nat → Bool) :
    writeBits (fun l => ov (f l) (d l)) obj i lo w (fun b => some (g b))
      = fun l => ov (writeBits f obj i lo w (fun b => some (g b)) l) (d l) := by
  funext l
  simp only [writeBits]
  split <;> rfl

theorem doAssign_overlay (m : Mode) (t : Target) (v : Nat) (d : Loc → Option Bool) (s : St) :
    doAssign m t v (overlay d s) = overlay d (doAssign m t v s) := by
  cases m with
  | value =>
    simp only [doAssign, eval_overlay]
    rfl
  | _ =>
    simp only [doAssign, eval_overlay]
    simp only [overlay, writeBits_overlay]

/-- pushed signals: the defaults assigned first (target level) stay under the pending updates while the body runs and
    are never read, so they act as the defaults taken at commit (source level) -/
theorem exec_overlay (p : Stmt) (d : Loc → Option Bool) (s : St) :
    exec p (overlay d s) = (overlay d (exec p s).1, (exec p s).2) := by
  induction p generalizing s with
  | seq a b iha ihb =>
    simp only [exec]
    rw [iha]
    by_cases h : (exec a s).2 = true
    · simp only [h, if_true]
    · simp only [h]
      exact ihb _
  | assign m t e => simp only [exec, eval_overlay, doAssign_overlay]
  | ite _ t e iht ihe | mcase _ _ t e iht ihe =>
    simp only [exec, eval_overlay]
    split
    · exact iht s
    · exact ihe s
  | call body ih => simp only [exec, ih]
  | declSig obj j w init =>
    simp only [exec, eval_overlay]
    simp only [overlay, writeBits_overlay]
  | skip => rfl
  | _ =>
    simp only [exec, eval_overlay]
    rfl

end CohdlVerif.C03
