import CohdlVerif.Lemmas.C01Sim

/-! C01 - the simulation claim for `skip`, assignments, `break` / `continue` / `return`, `await false` and `await`. -/
namespace CohdlVerif.C01

variable {σ : Type} (act : Nat → σ → σ) (cond : Nat → σ → Bool)
variable (prog : Stmt) (Hf : Nat → Blk) (E : Nat → σ → σ × Option Nat) (Rf : Nat → Nat) (Sf : List Nat)

theorem simG_skip (l : Bool) : SimG act cond prog Hf E Rf Sf .skip l := by
  intro st O s m R0 P' _ _ _ _ _ _ hp o ho
  exact hp.op o ho

theorem simG_brk (l : Bool) : SimG act cond prog Hf E Rf Sf .brk l := by
  intro st O s m R0 P' _ _ _ _ _ _ hp o ho
  exact hp.li o .brk (Or.inl ⟨by simp [compile, dB, ho], rfl⟩)

theorem simG_cont (l : Bool) : SimG act cond prog Hf E Rf Sf .cont l := by
  intro st O s m R0 P' _ _ _ _ _ _ hp o ho
  exact hp.li o .cont (Or.inr (Or.inl ⟨by simp [compile, dC, ho], rfl⟩))

theorem simG_ret (l : Bool) : SimG act cond prog Hf E Rf Sf .ret l := by
  intro st O s m R0 P' _ _ _ _ _ _ hp o ho
  exact hp.li o .ret (Or.inr (Or.inr ⟨by simp [compile, dR, ho], rfl⟩))

theorem simG_act (a : Nat) (k : Stmt) (l c : Bool) (hk : CSpec (compile k) l c)
    (ih : SimG act cond prog Hf E Rf Sf k l) : SimG act cond prog Hf E Rf Sf (.act a k) l := by
  intro st O s m R0 P' hi hsi hL hbad hF hP' hp o ho
  have hO : O ≠ [] := fun h => by subst h; simp at ho
  have hi1 := hi.appendAll (.act a)
  have hx := HeapExt.appendAll O (.act a) O s (fun _ h => h)
  have hA1 := appendAll_atStart hi.hlt hi.start (.act a)
  have Tk := hk.step hi1 (fun _ => hA1)
  have hc : compile (.act a k) O s = compile k O (s.appendAll O (.act a)) := rfl
  rw [hc] at hF hP' hp hbad
  have hk' := ih st O _ m R0 P' hi1 (hsi.step (hx.step hi.hlt.1) hi.hlt.2) (fun _ => hA1) hbad hF
    (fun y hy hlt hr => by
      rw [Outs_congr hx.sameLists]
      exact hP' y hy hlt (by rw [hx.next_eq] at hr; exact hr))
    (hp.congr act cond prog Hf E Rf Sf hx.sameLists) o ho
  intro suf hsuf s0
  have hox : o < (s.appendAll O (.act a)).next := hi1.hlt.1 o ho
  have hpre : ((s.heap o).items ++ [.act a]) <+: (Hf o).items := by
    rw [← appendAll_items_nodup (.act a) o O s hi.nodup ho]
    exact (Tk.items_mono o hox).trans (hF.items o (by have := Tk.next_le; omega))
  obtain ⟨suf', rfl⟩ := tail_split hsuf hpre
  have h1 := hk' suf' (by rw [hsuf, appendAll_items_nodup (.act a) o O s hi.nodup ho]; simp) (act a s0)
  rw [hA1] at h1
  simp only [List.singleton_append, tailF_act]
  exact SimPt2_pull act cond prog E Sf (RunTo.act_ act cond a k st _ s0) (fun _ => rfl) h1

/-- the state created for `await cc; k` simulates the suspension at that await -/
theorem await_state_sim2 (hE : ∀ b s, E b s = execB act cond E (Hf b) s) (cc : Option Nat) (k : Stmt) (st : List Frame)
    (idx nb ib : Nat) (hS : Sf[idx]? = some nb)
    (hEn : ∀ s0, E nb s0 = if evalC cond cc s0 then E ib s0 else (s0, none)) :
    ∀ m, (∀ j, j ≤ m → TailSim2 act cond prog Hf E Rf Sf j ib [] k st false) →
      SimN act cond prog E Sf m (.atAwait cc k st) idx := by
  intro m
  induction m with
  | zero => intro _; trivial
  | succ m ih =>
    intro hk s0
    rw [mStep_some E Sf idx nb hS, hEn]
    cases hc : evalC cond cc s0 with
    | true =>
      simp only [if_true]
      rcases (hk (m+1) (Nat.le_refl _)).run act cond prog Hf E Rf Sf hE (i := idx) s0 with h1 | ⟨f, r, h1, h2, _⟩
      · omega
      · exact ⟨f, r, by simpa only [refStep, hc, if_true] using h1, h2⟩
    | false =>
      simp only [Bool.false_eq_true, if_false]
      refine ⟨1, .atAwait cc k st, by simp [refStep, hc], ?_⟩
      simp only [Option.getD_none]
      exact ih (fun j hj => hk j (by omega))

/-- an `await` reached after the start: a new state with root block `s.next`, entered from every open block; the
    continuation goes to block `aB`, which is the root block itself (`await true`) or the then-branch of its only
    item -/
structure AwaitNs (cc : Option Nat) (O : List Nat) (s : CSt) : Prop where
  ib0 : (aS cc O s).heap (aB cc O s) = {}
  ib_ge : s.next ≤ aB cc O s
  next_lt : s.next < (aS cc O s).next
  states : (aS cc O s).states = s.states ++ [s.next]
  openH : ∀ o ∈ O, (aS cc O s).heap o = { s.heap o with front := [s.states.length] }
  head : (cc = none ∧ aB cc O s = s.next) ∨
    ∃ c' eb, cc = some c' ∧ (aS cc O s).heap s.next = { front := [], items := [.ite c' (aB cc O s) eb] } ∧
      (aS cc O s).heap eb = {} ∧ s.next < eb ∧ eb < (aS cc O s).next ∧ eb ≠ aB cc O s ∧ s.next ≠ aB cc O s

theorem awaitNs (cc : Option Nat) {O : List Nat} {s : CSt} (hi : Inv s O) (hst : s.atStart = false) :
    AwaitNs cc O s := by
  obtain ⟨_, e2, e3, e4, _, e6, e7, _⟩ := enter_nostart_facts hi hst
  cases cc with
  | none =>
    refine ⟨?_, ?_, ?_, ?_, ?_, ?_⟩ <;>
      simp only [aB, aS]
    · rw [e2, e4]
    · omega
    · omega
    · exact e6
    · exact e7
    · exact Or.inl ⟨trivial, e2⟩
  | some c' =>
    have hnb : s.next < (enterState O s).2.2.next := by omega
    have T1 := itePre_step c' s.next (enterState O s).2.2 hnb
    have hn1 : (itePre c' s.next (enterState O s).2.2).next = s.next + 3 := by rw [itePre_next, e3]
    have hch := itePre_child_heap c' s.next (enterState O s).2.2 hnb
    have hc2 := itePre_child2_heap c' s.next (enterState O s).2.2 hnb
    have hph := itePre_parent_heap c' s.next (enterState O s).2.2 hnb
    rw [e3] at hch hc2 hph
    refine ⟨?_, ?_, ?_, ?_, ?_, ?_⟩ <;>
      simp only [aB, aS, e2, e3]
    · exact hch
    · omega
    · omega
    · exact e6
    · intro o ho
      have hol := hi.hlt.1 o ho
      rw [T1.frame o (by omega) (by simp; omega), e7 o ho]
    · exact Or.inr ⟨c', s.next + 2, rfl, by rw [hph, e4]; rfl, hc2, by omega, by omega, by omega, by omega⟩

/-- the continuation of an `await`, translated in state `s1` in the empty block `ib` of a state of its own: the other
    blocks of `s1` are final, and `ib` simulates the continuation -/
theorem await_cont (k : Stmt) (l c : Bool) (hk : CSpec (compile k) l c) (ih : SimG act cond prog Hf E Rf Sf k l)
    (st : List Frame) (O : List Nat) (s s1 : CSt) (ib m : Nat) (R0 : List Nat) (P' : Nat → Prop)
    (hsl : SameLists s s1) (hi1 : Inv s1 [ib]) (hsi1 : SInv s1) (hA1 : s1.atStart = false) (hib : s1.heap ib = {})
    (hge : s.next ≤ ib ∧ s.next ≤ s1.next)
    (hbad : (compile k [ib] s1).2.bad = false) (hF : Fut Hf Rf Sf (compile k [ib] s1).2 P')
    (hP' : ∀ y, P' y → y < (compile k [ib] s1).2.next → (y ∈ O ∨ s.next ≤ y) →
      y ∈ Outs s (compile k [ib] s1).1 (compile k [ib] s1).2)
    (hp : Prems act cond prog Hf E Rf Sf m R0 st s (compile k [ib] s1)) :
    (∀ y, y < s1.next → y ≠ ib → (y ∈ O ∨ s.next ≤ y) → Hf y = s1.heap y) ∧
    ∀ j, (∀ x, lvl Rf [Rf ib] j x ≤ lvl Rf R0 m x) → TailSim2 act cond prog Hf E Rf Sf j ib [] k st false := by
  have Tk := hk.step hi1 (fun _ => hA1)
  have hn := Tk.next_le
  rw [← Outs_congr hsl] at hP'
  refine ⟨fun y hy hne hr => ?_, fun j hle => ?_⟩
  · have hnp : ¬ P' y := fun hp' => by
      rcases (Tk.outs_r y (hP' y hp' (by omega) hr)).1 with h | h
      · exact hne (List.mem_singleton.mp h)
      · omega
    rw [hF.closed y (by omega) hnp, Tk.frame y hy (by simpa using hne)]
  · have := ih st [ib] s1 j [Rf ib] P' hi1 hsi1 (fun _ => hA1) hbad hF
      (fun y hy hlt hr => hP' y hy hlt (Or.inr (by
        rcases hr with h | h
        · simp at h; omega
        · omega)))
      ((hp.congr act cond prog Hf E Rf Sf hsl).mono act cond prog Hf E Rf Sf hle) ib (by simp)
    rwa [hib, hA1, lvl_self] at this

/-- a fresh `await true` costs nothing -/
theorem simG_await_start_none (k : Stmt) (l : Bool) (hl : l = false) (ih : SimG act cond prog Hf E Rf Sf k l) :
    SimGAt act cond prog Hf E Rf Sf (.await none k) true := by
  intro st O s m R0 P' hi hsi hst hbad hF hP' hp o ho
  have hO := hi.start hst
  subst hO
  have hc : compile (.await none k) [0] s = compile k [0] s := by
    rw [compile_await_none, enterState_start [0] s hst]; rfl
  rw [hc] at hF hP' hp hbad
  have h1 := ih st [0] s m R0 P' hi hsi (fun h => by rw [hl] at h; cases h) hbad hF hP' hp o ho
  rw [hst] at h1
  intro suf hsuf s0
  exact SimPt2_pull act cond prog E Sf (RunTo.await_fresh_none act cond k st s0) (fun h => by cases h) (h1 suf hsuf s0)

section
variable (hE : ∀ b s, E b s = execB act cond E (Hf b) s)
include hE

theorem simG_awaitF (l : Bool) :
    SimG act cond prog Hf E Rf Sf .awaitF l := by
  intro st O s m R0 P' hi hsi _ _ hF hP' _ o ho
  have hO : O.isEmpty = false := by cases O <;> simp at ho ⊢
  have hc : compile .awaitF O s = ([], (enterState O s).2.2) := by simp [compile, hO]
  rw [hc] at hF hP'
  simp only at hF hP'
  rw [Outs_same (enterState_sameLists O s)] at hP'
  have hol : o < s.next := hi.hlt.1 o ho
  have hnP : ∀ y, y < (enterState O s).2.2.next → (y ∈ O ∨ s.next ≤ y) → ¬ P' y :=
    fun y hy hr hp => by simpa using hP' y hp hy hr
  intro suf hsuf s0
  cases hst : s.atStart with
  | true =>
    have ho0 : o = 0 := by simpa [hi.start hst] using ho
    subst ho0
    rw [enterState_start O s hst] at hF hnP
    have hH0 : Hf 0 = {} := by rw [hF.closed 0 hol (hnP 0 hol (Or.inl ho)), atStart_heap0 hst]
    rw [hH0, atStart_heap0 hst] at hsuf
    have : suf = [] := by simpa using hsuf.symm
    subst this
    obtain ⟨hc0, hS0⟩ := cur_zero Hf Rf Sf hsi hol hF
    refine Or.inr ⟨1, .stopped, rfl, ?_, fun h => by cases h⟩
    simp only [tailF, execI, hH0, lastT, por, hc0, Option.getD_none]
    apply SimN_stopped
    intro s1
    rw [mStep_some E Sf 0 0 hS0, E_empty act cond Hf E hE 0 hH0]
    rfl
  | false =>
    obtain ⟨_, _, e3, e4, _, e6, e7, _⟩ := enter_nostart_facts hi hst
    have hHo : Hf o = { s.heap o with front := [s.states.length] } := by
      rw [hF.closed o (by omega) (hnP o (by omega) (Or.inl ho)), e7 o ho]
    rw [hHo] at hsuf
    have : suf = [] := by simpa using hsuf.symm
    subst this
    have hHn : Hf s.next = {} := by rw [hF.closed s.next (by omega) (hnP s.next (by omega) (Or.inr (Nat.le_refl _))), e4]
    have hS : Sf[s.states.length]? = some s.next := by
      rw [prefix_getElem? hF.states _ (by rw [e6]; simp), e6]; simp
    refine SimPt2.suspend act cond prog Hf E Sf o (by rw [hHo]; rfl) rfl ?_
    apply SimN_stopped
    intro s1
    rw [mStep_some E Sf _ _ hS, E_empty act cond Hf E hE _ hHn]
    rfl

theorem simG_await_ns (cc : Option Nat) (k : Stmt) (l c : Bool)
    (hk : CSpec (compile k) l c) (ih : SimG act cond prog Hf E Rf Sf k l) :
    SimGAt act cond prog Hf E Rf Sf (.await cc k) false := by
  intro st O s m R0 P' hi hsi hst hbad hF hP' hp o ho
  have hO : O ≠ [] := fun h => by subst h; simp at ho
  rw [compile_await cc k O s hO] at hF hP' hp hbad
  have A := awaitNs cc hi hst
  obtain ⟨_, T, hsl, _⟩ := await_enter cc O s hi.hlt hi.start
  have hi1 := hi.await cc
  have hA1 := T.atStart_false hi.hlt.2 hst
  have Tk := hk.step hi1 (fun _ => hA1)
  have hn := Tk.next_le
  have hol : o < s.next := hi.hlt.1 o ho
  obtain ⟨hcl, hks⟩ := await_cont act cond prog Hf E Rf Sf k l c hk ih st O s _ _ m R0 P' hsl hi1 (hsi.step T hi.hlt.2) hA1 A.ib0
    ⟨A.ib_ge, Nat.le_of_lt A.next_lt⟩ hbad hF hP' hp
  have hHo : Hf o = { s.heap o with front := [s.states.length] } := by
    rw [hcl o (by have := A.next_lt; omega) (by have := A.ib_ge; omega) (Or.inl ho), A.openH o ho]
  have hS : Sf[s.states.length]? = some s.next := by
    rw [prefix_getElem? (Tk.states_mono.trans hF.states) _ (by rw [A.states]; simp), A.states]; simp
  have hEn : ∀ s1, E s.next s1 = if evalC cond cc s1 then E (aB cc O s) s1 else (s1, none) := by
    intro s1
    rcases A.head with ⟨rfl, e⟩ | ⟨c', eb, rfl, h1, h2, g1, g2, g3, g4⟩
    · rw [e]; rfl
    · rw [E_single_ite act cond Hf E hE s.next c' _ eb (by rw [hcl _ A.next_lt g4 (Or.inr (Nat.le_refl _)), h1]),
        E_empty act cond Hf E hE eb (by rw [hcl eb g2 g3 (Or.inr (by omega)), h2])]
      rfl
  intro suf hsuf s0
  rw [hHo] at hsuf
  have : suf = [] := by simpa using hsuf.symm
  subst this
  exact SimPt2.suspend act cond prog Hf E Sf o (by rw [hHo]; rfl) (run_await_susp act cond cc k st s0)
    (await_state_sim2 act cond prog Hf E Rf Sf hE cc k st _ s.next _ hS hEn _
      (fun j hj => hks j (lvl_new_le Rf R0 _ m o j hj)))

theorem simG_await_start_some (c' : Nat) (k : Stmt) (l c : Bool)
    (hk : CSpec (compile k) l c) (ih : SimG act cond prog Hf E Rf Sf k l) :
    SimGAt act cond prog Hf E Rf Sf (.await (some c') k) true := by
  intro st O s m R0 P' hi hsi hst hbad hF hP' hp o ho
  have hO := hi.start hst
  subst hO
  have ho0 : o = 0 := by simpa using ho
  subst ho0
  have hc : compile (.await (some c') k) [0] s = compile k [s.next] (itePre c' 0 s) := by
    rw [compile_await_some, enterState_start [0] s hst]; rfl
  rw [hc] at hF hP' hp hbad
  have hsl := itePre_sameLists c' 0 s
  have h0 : 0 < s.next := hi.hlt.2
  have T1 := itePre_step c' 0 s h0
  have hl1 := T1.hlt ⟨by simpa using h0, h0⟩
  have hA1 := itePre_atStart c' 0 s h0 h0 (fun _ => rfl)
  have hn1 : (itePre c' 0 s).next = s.next + 2 := rfl
  have hi1 : Inv (itePre c' 0 s) [s.next] := Inv.single (by omega) hl1.2 hA1 (itePre_child_front c' 0 s)
  have hsi1 := hsi.step T1 h0
  have Tk := hk.step hi1 (fun _ => hA1)
  have hn := Tk.next_le
  obtain ⟨hcl, hks⟩ := await_cont act cond prog Hf E Rf Sf k l c hk ih st [0] s _ s.next m R0 P' hsl hi1 hsi1 hA1
    (itePre_child_heap c' 0 s h0) ⟨Nat.le_refl _, by omega⟩ hbad hF hP' hp
  have hH0 : Hf 0 = { front := [], items := [.ite c' s.next (s.next + 1)] } := by
    rw [hcl 0 (by omega) (by omega) (Or.inl (by simp)), itePre_parent_heap c' 0 s h0, atStart_heap0 hst]
    rfl
  have hHe : Hf (s.next + 1) = {} := by
    rw [hcl (s.next + 1) (by omega) (by omega) (Or.inr (by omega)), itePre_child2_heap c' 0 s h0]
  obtain ⟨hc0, hS0⟩ := cur_zero Hf Rf Sf (hsi1.step Tk hl1.2) (by omega) hF
  have hRf : Rf s.next = Rf 0 := by
    rw [hF.root s.next (by omega), hF.root 0 (by omega), Tk.root_stable s.next (by omega),
      Tk.root_stable 0 (by omega), itePre_child_root c' 0 s, T1.root_stable 0 h0]
  have hks : ∀ j, j ≤ lvl Rf R0 m 0 → TailSim2 act cond prog Hf E Rf Sf j s.next [] k st false := fun j hj =>
    hks j (lvl_same_le Rf R0 m 0 s.next j hRf hj)
  have hEn : ∀ s1, E 0 s1 = if evalC cond (some c') s1 then E s.next s1 else (s1, none) := by
    intro s1
    rw [E_single_ite act cond Hf E hE 0 c' s.next (s.next + 1) hH0, E_empty act cond Hf E hE _ hHe]
    rfl
  intro suf hsuf s0
  rw [hH0, atStart_heap0 hst] at hsuf
  have : suf = [.ite c' s.next (s.next + 1)] := by simpa using hsuf.symm
  subst this
  have htl : tailF act cond Hf E 0 [.ite c' s.next (s.next + 1)] s0 = E 0 s0 := by
    rw [E_tailF act cond Hf E hE 0, hH0]
  rw [htl, hEn]
  cases hcc : cond c' s0 with
  | true =>
    simp only [evalC, hcc, if_true]
    exact SimPt2_pull act cond prog E Sf (RunTo.await_fresh_some act cond c' k st s0 hcc) (fun h => by cases h)
      ((hks _ (Nat.le_refl _)).run act cond prog Hf E Rf Sf hE s0)
  | false =>
    simp only [evalC, hcc, Bool.false_eq_true, if_false]
    by_cases hm : lvl Rf R0 m 0 = 0
    · exact Or.inl hm
    right
    refine ⟨1, .atAwait (some c') k st, run_await_fresh_false act cond c' k st s0 hcc, ?_, fun h => by cases h⟩
    simp only [Option.getD_none, hc0]
    exact await_state_sim2 act cond prog Hf E Rf Sf hE (some c') k st 0 0 s.next hS0 hEn _ (fun j hj => hks j (by omega))

theorem simG_await (cc : Option Nat) (k : Stmt) (l c : Bool)
    (hk : CSpec (compile k) l c) (ih : SimG act cond prog Hf E Rf Sf k l) :
    SimG act cond prog Hf E Rf Sf (.await cc k) l := by
  refine SimG.of_at act cond prog Hf E Rf Sf (simG_await_ns act cond prog Hf E Rf Sf hE cc k l c hk ih) (fun hl => ?_)
  cases cc with
  | some c' => exact simG_await_start_some act cond prog Hf E Rf Sf hE c' k l c hk ih
  | none => exact simG_await_start_none act cond prog Hf E Rf Sf k l hl ih

end

end CohdlVerif.C01
