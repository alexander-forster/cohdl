import CohdlVerif.Lemmas.C11Lemmas

/-!
  C11 - two runs of the same event list from two states that agree on everything a compilation can observe
  (`Sim`) produce the same result; the fields no region writes; the address-keyed cache.
-/
namespace CohdlVerif.C11

/-- the owner of the prefix counters is an object of an earlier compilation (or none) -/
def Old (o : Option Id) : Prop := ∀ p, o = some p → p.1 ≠ 0

/-- an object of the running compilation -/
def IsNew (p : List Nat) : Prop := ∀ i, idOf p = some i → i.1 = 0

theorem isNew_zero (l : List Nat) : IsNew (0 :: l) := by
  intro i hi
  cases l with
  | nil => cases hi
  | cons n l => cases hi; rfl

/-- every object on the entity / block stacks belongs to the running compilation -/
def AllNew (s : Kind → List (List Nat)) : Prop := ∀ k, k = Kind.arch ∨ k = Kind.blk → ∀ p ∈ s k, IsNew p

/-- `dyn` and `new` speak of the stacks of `g` only: by `s` those of `g'` are the same -/
structure Sim (g g' : G) : Prop where
  s : ∀ k, masked k = false → g.s k = g'.s k
  inst : g.inst = g'.inst
  reg : g.reg = g'.reg
  pfx : (g.owner = g'.owner ∧ g.existing = g'.existing) ∨ (Old g.owner ∧ Old g'.owner)
  caches : CachesSound g
  caches' : CachesSound g'
  /-- the dynamic ports of every entity whose architecture is running agree (they were discarded on both sides
      when the architecture was entered); those of other classes may differ arbitrarily -/
  dyn : ∀ fr ∈ g.s .arch, ∀ p, (archClass fr, p) ∈ g.dyn ↔ (archClass fr, p) ∈ g'.dyn
  res : g.reserved = g'.reserved
  new : AllNew g.s

theorem agree_upd {s s' : Kind → List (List Nat)} {k : Kind} {v v' : List (List Nat)}
    (h : ∀ j, masked j = false → s j = s' j) (hv : masked k = false → v = v') :
    ∀ j, masked j = false → upd s k v j = upd s' k v' j := by
  intro j hj
  by_cases e : j = k
  · subst e; simpa using hv hj
  · rw [upd_other _ _ _ _ e, upd_other _ _ _ _ e]; exact h j hj

theorem allNew_upd {s : Kind → List (List Nat)} {k : Kind} {v : List (List Nat)} (h : AllNew s)
    (hv : k = .arch ∨ k = .blk → ∀ p ∈ v, IsNew p) : AllNew (upd s k v) := by
  intro j hj p hp
  by_cases e : j = k
  · subst e; rw [upd_same] at hp; exact hv hj p hp
  · rw [upd_other _ _ _ _ e] at hp; exact h j hj p hp

/-- `ha`: no architecture frame appears, so the dynamic ports need no further agreement -/
theorem sim_upd {g g' : G} (h : Sim g g') {k : Kind} {v v' : List (List Nat)} (hv : masked k = false → v = v')
    (hn : k = .arch ∨ k = .blk → ∀ p ∈ v, IsNew p) (ha : k = .arch → ∀ fr ∈ v, fr ∈ g.s .arch) :
    Sim { g with s := upd g.s k v } { g' with s := upd g'.s k v' } :=
  { h with
    s := agree_upd h.s hv
    new := allNew_upd h.new hn
    dyn := fun fr (hfr : fr ∈ upd g.s k v .arch) => h.dyn fr (by
      by_cases e : Kind.arch = k
      · subst e; exact ha rfl fr (by rwa [upd_same] at hfr)
      · rwa [upd_other _ _ _ _ e] at hfr) }

theorem sim_push {g g' : G} (k : Kind) (p : List Nat) (hk : k ≠ .arch) (hp : k = .blk → IsNew p) (h : Sim g g') :
    Sim (push k p g) (push k p g') :=
  sim_upd h (fun hm => by rw [h.s k hm])
    (fun hb => List.forall_mem_cons.mpr ⟨hp (hb.resolve_left hk), h.new k hb⟩) (fun e => absurd e hk)

theorem sim_pop {g g' : G} (k : Kind) (h : Sim g g') : Sim (pop k g) (pop k g') :=
  sim_upd h (fun hm => by rw [h.s k hm]) (fun hb p hp => h.new k hb p (List.mem_of_mem_tail hp))
    (fun e fr hfr => by subst e; exact List.mem_of_mem_tail hfr)

theorem sim_ctx {g g' : G} (v : List (List Nat)) (h : Sim g g') :
    Sim { g with s := upd g.s .ctx v } { g' with s := upd g'.s .ctx v } :=
  sim_upd h (fun _ => rfl) (fun hb => by rcases hb with hb | hb <;> cases hb) (fun e => by cases e)

theorem sim_exitOk {g g' : G} (k : Kind) (h : Sim g g') : Sim (exitOk k g) (exitOk k g') := by
  cases k
  case conv =>
    exact { sim_pop .conv h with
      inst := by simp only [exitOk, pop_inst, pop_reg, h.inst, h.reg]
      reg := rfl }
  case arch =>
    simp only [exitOk]
    rw [← h.s .arch rfl]
    split
    · exact { sim_pop .arch h with reg := by simp [h.reg] }
    · exact h
  case ctx => exact sim_ctx [] h
  all_goals exact sim_pop _ h

theorem cur_eq {g g' : G} (h : Sim g g') : cur g = cur g' := by
  unfold cur
  rw [h.s .arch rfl, h.s .blk rfl]

theorem cur_new {g : G} (hn : AllNew g.s) {c : Id} (hc : cur g = some c) : c.1 = 0 := by
  unfold cur at hc
  split at hc
  · rename_i p ps hs
    exact hn .arch (Or.inl rfl) p (by simp [hs]) c hc
  · cases hl : (g.s .blk).getLast? with
    | none => simp [hl] at hc
    | some p =>
      simp only [hl, Option.bind_some] at hc
      exact hn .blk (Or.inr rfl) p (List.mem_of_getLast? hl) c hc

def Agree {α : Type} (x y : Except Err (G × α)) : Prop :=
  (∃ e, x = .error e ∧ y = .error e) ∨ (∃ g1 g1' t, x = .ok (g1, t) ∧ y = .ok (g1', t) ∧ Sim g1 g1')

theorem Agree.error {α : Type} (e : Err) : Agree (α := α) (.error e) (.error e) := Or.inl ⟨e, rfl, rfl⟩

theorem Agree.ok {α : Type} {g1 g1' : G} {t : α} (h : Sim g1 g1') : Agree (.ok (g1, t)) (.ok (g1', t)) :=
  Or.inr ⟨_, _, _, rfl, rfl, h⟩

/-- the current entity is new, so stale counters (owner old, on either side) are reset on both sides -/
theorem sim_enter_pfx {g g' : G} (a : List Nat) (n : Nat) (h : Sim g g') :
    Agree (enter .pfx a n g) (enter .pfx a n g') := by
  simp only [enter, mkPrefix, ← cur_eq h]
  cases hcur : cur g with
  | none => exact .error _
  | some c =>
    have c0 := cur_new h.new hcur
    have hb : (g.owner = some c ↔ g'.owner = some c) ∧ (g.owner = some c → g.existing = g'.existing) := by
      rcases h.pfx with ⟨ho, he⟩ | ⟨o1, o2⟩
      · exact ⟨by rw [ho], fun _ => he⟩
      · exact ⟨⟨fun e => absurd c0 (o1 c e), fun e => absurd c0 (o2 c e)⟩, fun e => absurd c0 (o1 c e)⟩
    by_cases hoc : g.owner = some c
    · have hoc' := hb.1.mp hoc
      simp only [hoc, hoc', if_true, ← h.s .pfx rfl, ← hb.2 hoc]
      exact .ok (sim_push _ _ (by decide) (fun e => by cases e) { h with pfx := Or.inl ⟨rfl, rfl⟩ })
    · have hoc' := mt hb.1.mpr hoc
      simp only [hoc, hoc', if_false, ← h.s .pfx rfl]
      exact .ok (sim_push _ _ (by decide) (fun e => by cases e) { h with pfx := Or.inl ⟨rfl, rfl⟩ })

theorem sim_enter_arch {g g' : G} (a : List Nat) (n : Nat) (h : Sim g g') :
    Agree (enter .arch a n g) (enter .arch a n g') := by
  simp only [enter, ← h.s .conv rfl, ← h.inst]
  split
  · exact .error _
  · split
    · exact .ok (sim_push _ _ (by decide) (fun e => by cases e) h)
    · refine .ok { h with
        s := agree_upd h.s (fun _ => by rw [h.s .arch rfl])
        new := allNew_upd h.new (fun _ => List.forall_mem_cons.mpr ⟨isNew_zero _, h.new .arch (Or.inl rfl)⟩)
        inst := by simp [h.inst]
        dyn := fun fr hfr p => ?_ }
      simp only [push_s, upd_same, List.mem_cons] at hfr
      simp only [List.mem_filter, bne_iff_ne, ne_eq]
      rcases hfr with rfl | hfr
      · simp
      · rw [h.dyn fr hfr p]

theorem sim_enter {g g' : G} (k : Kind) (a : List Nat) (n : Nat) (h : Sim g g') :
    Agree (enter k a n g) (enter k a n g') := by
  cases k
  case conv =>
    simp only [enter, ← h.s .conv rfl]
    split
    · exact .error _
    · exact .ok { sim_push .conv [0, n] (by decide) (fun e => by cases e) h with reg := rfl }
  case arch => exact sim_enter_arch a n h
  case archReuse => exact sim_enter_arch a n h
  case blk => exact .ok (sim_push _ _ (by decide) (fun _ => isNew_zero _) h)
  case ctx => exact .ok (sim_ctx [a] h)
  case pfx => exact sim_enter_pfx a n h
  case sm =>
    simp only [enter, ← h.s .sm rfl]
    split
    · exact .error _
    · exact .ok (sim_push _ _ (by decide) (fun e => by cases e) h)
  case scope =>
    simp only [enter, ← h.res]
    exact .ok (sim_push _ _ (by decide) (fun e => by cases e) h)
  all_goals exact .ok (sim_push _ _ (by decide) (fun e => by cases e) h)

theorem sim_act {g g' : G} (cfg : Cfg) (perm : List Nat → List Nat) (a : Act) (h : Sim g g') :
    Agree (act cfg perm a g) (act cfg perm a g') := by
  cases a with
  | name n =>
    simp only [act, ← h.s .pfx rfl]
    cases g.s .pfx <;> exact .ok h
  | useCtx =>
    simp only [act, ← h.s .ctx rfl]
    cases g.s .ctx with
    | nil => exact .error _
    | cons t ts => exact .ok h
  | fn f =>
    have s1 := cacheGet_sound f h.caches.1
    have s2 := cacheGet_sound f h.caches'.1
    simp only [act, s1.1, s2.1]
    exact .ok { h with caches := ⟨s1.2, h.caches.2⟩, caches' := ⟨s2.2, h.caches'.2⟩ }
  | ty t =>
    have s1 := cacheGet_sound t h.caches.2
    have s2 := cacheGet_sound t h.caches'.2
    simp only [act, s1.1, s2.1]
    exact .ok { h with caches := ⟨h.caches.1, s1.2⟩, caches' := ⟨h.caches'.1, s2.2⟩ }
  | ifExpr => exact .ok { h with }
  | libs xs => exact .ok h
  | mem x xs => exact .ok h
  | emit t => exact .ok h
  | declare n =>
    simp only [act, ← h.s .scope rfl]
    cases g.s .scope with
    | nil => exact .error _
    | cons t ts => exact .ok h
  | addPort p =>
    simp only [act, ← h.s .arch rfl]
    cases hs : g.s .arch with
    | nil => exact .error _
    | cons fr frs =>
      simp only [List.contains_eq_mem, ← h.dyn fr (by simp [hs]) p]
      split
      · exact .error _
      · refine .ok { h with dyn := fun fr2 hfr2 q => ?_ }
        simp only [List.mem_cons, h.dyn fr2 hfr2 q]

theorem run_result_eq (cfg : Cfg) (perm : List Nat → List Nat) (evs : List Ev) :
    ∀ (F : List Kind) (n : Nat) (g g' : G) (out : List Tok), Sim g g' →
      (run cfg perm evs F n g out).1 = (run cfg perm evs F n g' out).1 := by
  induction evs with
  | nil => intro F n g g' out _; rfl
  | cons ev evs ih =>
    intro F n g g' out h
    cases ev with
    | fail => rfl
    | exit =>
      cases F with
      | nil => exact ih [] _ g g' out h
      | cons k F => exact ih F _ _ _ out (sim_exitOk k h)
    | enter k a =>
      simp only [run]
      rcases sim_enter k a n h with ⟨e, e1, e2⟩ | ⟨g1, g1', ⟨t, k1⟩, e1, e2, hs⟩
      · rw [e1, e2]
      · rw [e1, e2]
        exact ih _ _ _ _ _ hs
    | act a =>
      simp only [run]
      rcases sim_act cfg perm a h with ⟨e, e1, e2⟩ | ⟨g1, g1', t, e1, e2, hs⟩
      · rw [e1, e2]
      · rw [e1, e2]
        exact ih _ _ _ _ _ hs

theorem sim_init {g : G} (h : Clean g) (ho : Old g.owner) (hc : CachesSound g) (hr : g.reserved = G.init.reserved) :
    Sim g G.init where
  s k hk := h.1 k hk
  inst := h.2.1
  reg := h.2.2
  pfx := Or.inr ⟨ho, fun _ hp => by cases hp⟩
  caches := hc
  caches' := ⟨cacheSound_nil, cacheSound_nil⟩
  dyn fr hfr := by rw [h.1 .arch rfl] at hfr; cases hfr
  res := hr
  new k hk p hp := by
    rw [h.1 k (by rcases hk with rfl | rfl <;> rfl)] at hp
    cases hp

theorem old_age (g : G) : Old (age g).owner := by
  intro p hp
  simp only [age, Option.map_eq_some_iff] at hp
  obtain ⟨q, _, rfl⟩ := hp
  simp

theorem enter_static {k k1 : Kind} {a : List Nat} {n : Nat} {g g1 : G} {t : List Tok}
    (h : enter k a n g = .ok (g1, t, k1)) : Static g g1 := by
  cases entered h with
  | pfx hm => exact (mkPrefix_frame hm).2.2.2
  | _ => exact ⟨rfl, id⟩

theorem exitOk_static (k : Kind) (g : G) : Static g (exitOk k g) := by
  unfold exitOk
  repeat' split
  all_goals exact ⟨rfl, id⟩

theorem exitExc_static (cfg : Cfg) (k : Kind) (g : G) : Static g (exitExc cfg k g) := by
  unfold exitExc
  split
  · repeat' split
    all_goals exact ⟨rfl, id⟩
  · split
    · exact exitOk_static k g
    · exact ⟨rfl, id⟩

theorem compile_static (cfg : Cfg) (perm : List Nat → List Nat) (d : Design) (g : G) :
    Static g (compile cfg perm d g).2 :=
  run_inv (P := fun _ => Static g) (Q := Static g) (fun he h => h.trans (enter_static he))
    (fun he h => h.trans (act_frame he).2.2.2) (fun k h => h.trans (exitOk_static k _))
    (fun k h => h.trans (exitExc_static cfg k _)) (fun _ h => h) d [] 0 g [] ⟨rfl, id⟩

/-- every cache entry holds the definition of the object it was made for AND that object still lives at the key
    address; no two live objects share an address -/
structure Heap.Ok (h : Heap) : Prop where
  sound : ∀ e ∈ h.cache, e.2.2 = defOf e.2.1 ∧ (e.1, e.2.1) ∈ h.live
  uniq : ∀ a f g, (a, f) ∈ h.live → (a, g) ∈ h.live → f = g

theorem Heap.ok_empty : Heap.Ok Heap.empty :=
  ⟨fun _ he => (nomatch he), fun _ _ _ hf => (nomatch hf)⟩

theorem Heap.ok_alloc {h h1 : Heap} {a f : Nat} (ok : h.Ok) (e : h.alloc a f = some h1) : h1.Ok := by
  unfold Heap.alloc at e
  split at e
  · cases e
  · rename_i hfree
    cases e
    have hfree' : ∀ x, (a, x) ∉ h.live := fun x hx =>
      hfree (List.any_eq_true.mpr ⟨(a, x), hx, beq_self_eq_true a⟩)
    refine ⟨fun e he => ⟨(ok.sound e he).1, List.mem_cons_of_mem _ (ok.sound e he).2⟩, fun b x y hx hy => ?_⟩
    rcases List.mem_cons.mp hx with hx | hx <;> rcases List.mem_cons.mp hy with hy | hy
    · cases hx
      cases hy
      rfl
    · cases hx
      exact absurd hy (hfree' _)
    · cases hy
      exact absurd hx (hfree' _)
    · exact ok.uniq b x y hx hy

/-- with the reference held by the cache entry (`keep = true`) freeing never invalidates an entry -/
theorem Heap.ok_free {h : Heap} (a : Nat) (ok : h.Ok) : (h.free true a).Ok := by
  unfold Heap.free
  split
  · exact ok
  · rename_i hc
    refine ⟨fun e he => ⟨(ok.sound e he).1, List.mem_filter.mpr ⟨(ok.sound e he).2, ?_⟩⟩,
      fun b x y hx hy => ok.uniq b x y (List.mem_filter.mp hx).1 (List.mem_filter.mp hy).1⟩
    refine bne_iff_ne.mpr fun heq => hc ?_
    rw [Bool.true_and]
    exact List.any_eq_true.mpr ⟨e, he, beq_iff_eq.mpr heq⟩

/-- a lookup at the address of a live object answers with the definition of THAT object, hit or miss -/
theorem Heap.lookup_live {h : Heap} {a f : Nat} (ok : h.Ok) (hl : (a, f) ∈ h.live) :
    ∃ h1, h.lookup a = some (defOf f, h1) ∧ h1.Ok := by
  unfold Heap.lookup
  cases hf : h.live.find? (fun e => e.1 == a) with
  | none =>
    have := List.find?_eq_none.mp hf (a, f) hl
    simp at this
  | some obj =>
    have hm := List.mem_of_find?_eq_some hf
    have ha : obj.1 = a := by simpa using List.find?_some hf
    have hobj : obj.2 = f := ok.uniq a obj.2 f (by rw [← ha]; exact hm) hl
    cases hc : h.cache.find? (fun e => e.1 == a) with
    | some e =>
      have hem := List.mem_of_find?_eq_some hc
      have hea : e.1 = a := by simpa using List.find?_some hc
      have hs := ok.sound e hem
      have : e.2.1 = f := ok.uniq a e.2.1 f (by rw [← hea]; exact hs.2) hl
      exact ⟨h, by simp only [hs.1, this], ok⟩
    | none =>
      refine ⟨{ h with cache := (a, f, defOf f) :: h.cache }, by simp only [hobj], ?_, ok.uniq⟩
      intro e he
      rcases List.mem_cons.mp he with rfl | he
      · exact ⟨rfl, hl⟩
      · exact ok.sound e he

end CohdlVerif.C11
