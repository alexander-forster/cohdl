import CohdlVerif.Lemmas.C19Basic

/-! C19: constructors from python numbers, and `__eq__` with a python number -/

namespace CohdlVerif.C19

/-- `a * 2^ea = b * 2^eb`, compared as integers scaled by the common exponent -/
def dyEq (a ea b eb : Int) : Prop := a * p2 (ea - min ea eb) = b * p2 (eb - min ea eb)

theorem dyLe_antisymm (a ea b eb : Int) : (dyLe a ea b eb = true ∧ dyLe b eb a ea = true) ↔ dyEq a ea b eb := by
  unfold dyLe dyEq
  simp only [decide_eq_true_eq, Int.min_comm eb ea]
  omega

theorem truncScaled_of_dyEq (v r m e : Int) (h : dyEq v r m e) : truncScaled m e r = v := by
  unfold dyEq at h
  unfold truncScaled
  by_cases her : e ≥ r
  · rw [if_pos her]
    rw [Int.min_eq_left (show r ≤ e by omega), Int.sub_self, p2_zero, Int.mul_one] at h
    exact h.symm
  · rw [if_neg her]
    rw [Int.min_eq_right (show e ≤ r by omega), Int.sub_self, p2_zero, Int.mul_one] at h
    rw [← h]
    exact Int.mul_tdiv_cancel _ (Int.ne_of_gt (p2_pos _))

theorem dyEq_left_cancel (t v r m e : Int) (h1 : dyEq t r m e) (h2 : dyEq v r m e) : t = v :=
  Int.eq_of_mul_eq_mul_right (Int.ne_of_gt (p2_pos (r - min r e))) (h1.trans h2.symm)

/-- constructor from a python number that the format can represent: the number is preserved -/
theorem ctorNumS_representable {l r v m e : Int} (hlr : r ≤ l) (hv : inRangeS (l - r + 1) v)
    (h : dyEq v r m e) : ctorNumS l r m e = .ok v := by
  have ht := truncScaled_of_dyEq v r m e h
  have hk := Int.le_of_lt (p2_pos (r - min r e))
  unfold dyEq at h
  have c1 : dyLe (-(p2 (l - r + 1 - 1))) r m e = true := by
    unfold dyLe
    rw [decide_eq_true_eq, ← h]
    exact Int.mul_le_mul_of_nonneg_right hv.1 hk
  have c2 : dyLe m e (p2 (l - r + 1 - 1) - 1) r = true := by
    unfold dyLe
    rw [decide_eq_true_eq, Int.min_comm e r, ← h]
    exact Int.mul_le_mul_of_nonneg_right (by have := hv.2; omega) hk
  unfold ctorNumS
  dsimp only
  rw [if_neg (not_not_intro ⟨c1, c2⟩), ht, mkS_ok (width_pos hlr) hv, ok_bind, sInt_ok (width_pos hlr) hv]
  rfl

theorem ctorNumU_representable {l r v m e : Int} (hlr : r ≤ l) (hv : inRangeU (l - r + 1) v)
    (h : dyEq v r m e) : ctorNumU l r m e = .ok v := by
  have ht := truncScaled_of_dyEq v r m e h
  have hk := Int.le_of_lt (p2_pos (r - min r e))
  unfold dyEq at h
  have hm : 0 ≤ m := Int.nonneg_of_mul_nonneg_left (h ▸ Int.mul_nonneg hv.1 hk) (p2_pos (e - min r e))
  have c1 : dyLe 0 0 m e = true := by
    unfold dyLe
    rw [decide_eq_true_eq, Int.zero_mul]
    exact Int.mul_nonneg hm (Int.le_of_lt (p2_pos _))
  have c2 : dyLe m e (p2 (l - r + 1) - 1) r = true := by
    unfold dyLe
    rw [decide_eq_true_eq, Int.min_comm e r, ← h]
    exact Int.mul_le_mul_of_nonneg_right (by have := hv.2; omega) hk
  unfold ctorNumU
  dsimp only
  rw [if_neg (not_not_intro ⟨c1, c2⟩), ht, mkU_ok (width_pos hlr) hv, ok_bind, u_ok hv]
  rfl

theorem mkS_sInt (w v : Int) (b : BV) (h : mkS w v = .ok b) : b.sInt = v := by
  unfold mkS at h
  split at h
  · contradiction
  · split at h
    · rename_i hw hr
      injection h with h
      rw [← h]
      exact sInt_ok (by omega) hr
    · contradiction

theorem mkU_u (w v : Int) (b : BV) (h : mkU w v = .ok b) : b.u = v := by
  unfold mkU at h
  split at h
  · contradiction
  · split at h
    · injection h with h
      rw [← h]
    · contradiction

theorem guard_bind_ok {α : Type} (c : Prop) [Decidable c] (e : Err) (m : Except Err α) (f : α → Int) (r : Int)
    (h : (if c then .error e else m >>= fun x => pure (f x)) = Except.ok r) : ∃ b, m = .ok b ∧ f b = r := by
  split at h
  · contradiction
  · cases m with
    | error err => contradiction
    | ok b =>
      injection h with h
      exact ⟨b, rfl, h⟩

theorem ctorNumS_val (l r m e c : Int) (h : ctorNumS l r m e = .ok c) : c = truncScaled m e r := by
  obtain ⟨b, hm, hb⟩ := guard_bind_ok _ _ _ BV.sInt c h
  rw [← hb, mkS_sInt _ _ b hm]

theorem ctorNumU_val (l r m e c : Int) (h : ctorNumU l r m e = .ok c) : c = truncScaled m e r := by
  obtain ⟨b, hm, hb⟩ := guard_bind_ok _ _ _ BV.u c h
  rw [← hb, mkU_u _ _ b hm]

/-- `h` is the body of `eqNumS` / `eqNumU` with the constructor call as the parameter `ctor` -/
theorem eqNum_spec (ctor : Except Err Int) (r v m e : Int) (b : Bool)
    (hval : ∀ c, ctor = .ok c → c = truncScaled m e r)
    (h : (if ¬ (dyLe (truncScaled m e r) r m e ∧ dyLe m e (truncScaled m e r) r) then pure false
          else do let c ← ctor; pure (c == v)) = Except.ok b) :
    b = true ↔ dyEq v r m e := by
  by_cases hc : dyLe (truncScaled m e r) r m e = true ∧ dyLe m e (truncScaled m e r) r = true
  · have ht := (dyLe_antisymm _ _ _ _).mp hc
    rw [if_neg (not_not_intro hc)] at h
    cases hk : ctor with
    | error err =>
      rw [hk] at h
      contradiction
    | ok c =>
      rw [hk, ok_bind] at h
      injection h with h
      rw [← h, hval c hk, beq_iff_eq]
      exact ⟨fun hb => hb ▸ ht, dyEq_left_cancel _ _ _ _ _ ht⟩
  · rw [if_pos hc] at h
    injection h with h
    rw [← h]
    refine ⟨fun hb => absurd hb (by decide), fun hv => absurd ?_ hc⟩
    rw [truncScaled_of_dyEq v r m e hv]
    exact (dyLe_antisymm _ _ _ _).mpr hv

/-- `SFixed[l:r](raw=v) == (m * 2^e)`: whenever it returns, the answer is the comparison of the two numbers -/
theorem eqNumS_spec {l r v m e : Int} {b : Bool} (h : eqNumS l r v m e = .ok b) : b = true ↔ dyEq v r m e :=
  eqNum_spec (ctorNumS l r m e) r v m e b (ctorNumS_val l r m e) h

theorem eqNumU_spec {l r v m e : Int} {b : Bool} (h : eqNumU l r v m e = .ok b) : b = true ↔ dyEq v r m e :=
  eqNum_spec (ctorNumU l r m e) r v m e b (ctorNumU_val l r m e) h

end CohdlVerif.C19
