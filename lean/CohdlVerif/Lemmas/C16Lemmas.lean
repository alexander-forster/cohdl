import CohdlVerif.Model.C16Timing

/-! C16: runs of the timing utilities over many clocks.  Divider and toggle count with the counter of
  `continuous_counter`, so their periods come from `ccIter_eq`. -/
namespace CohdlVerif.C16

theorem succ_mod (a n : Nat) (hn : 0 < n) :
    (a + 1) % n = if a % n + 1 = n then 0 else a % n + 1 := by
  have hlt := Nat.mod_lt a hn
  rw [← Nat.mod_add_mod]
  split
  · next he => rw [he, Nat.mod_self]
  · next hne => exact Nat.mod_eq_of_lt (by omega)

theorem mod_zero_iff_succ (x n : Nat) (hn : 2 ≤ n) : x % n = 0 ↔ (x + 1) % n = 1 := by
  rw [succ_mod x n (by omega)]
  split <;> omega

theorem mod_zero_isolated (x D : Nat) (hD : 2 ≤ D) (h : x % D = 0) : (x + 1) % D ≠ 0 := by
  rw [(mod_zero_iff_succ x D hD).mp h]
  exact Nat.one_ne_zero

/-- phase of `tick_at_start` (counter end E, period E + 1) -/
theorem tas_phase (k E : Nat) (hE : 1 ≤ E) : (E + k) % (E + 1) = 0 ↔ k % (E + 1) = 1 := by
  rw [mod_zero_iff_succ _ _ (by omega), show E + k + 1 = E + 1 + k by omega, Nat.add_mod_left]

/-- `v - 1` on `Unsigned[w]` for `1 ≤ v < 2^w` -/
theorem dec_wrap (v w : Nat) (h1 : 1 ≤ v) (h2 : v < 2 ^ w) : (v + 2 ^ w - 1) % 2 ^ w = v - 1 := by
  rw [Nat.add_comm, Nat.add_sub_assoc h1, Nat.add_mod_left]
  exact Nat.mod_eq_of_lt (Nat.lt_of_le_of_lt (Nat.sub_le v 1) h2)

theorem resumesAt_loop (c : Nat) : ∀ k, resumesAt (.loop c) k = true ↔ k = c + 1 := by
  induction c with
  | zero =>
    intro k
    cases k with
    | zero => simp [resumesAt]
    | succ k => simp [resumesAt, Pend.step]
  | succ c ih =>
    intro k
    cases k with
    | zero => simp [resumesAt]
    | succ k =>
      simp only [resumesAt, Pend.step]
      rw [ih k]
      omega

/-- `await true` is the loop that is not entered -/
theorem resumesAt_tick (k : Nat) : resumesAt .tick k = true ↔ k = 1 := by
  rw [show resumesAt .tick k = resumesAt (.loop 0) k by cases k <;> rfl]
  exact resumesAt_loop 0 k

theorem reach_const (n : Nat) (hn : 1 ≤ n) (az : Bool) (wtr : Option Nat) (v : Nat) :
    reach ⟨.const n, az, wtr⟩ v = .pend (if n = 1 then .tick else .loop (n - 1)) := by
  have h0 : (n == 0) = false := beq_eq_false_iff_ne.mpr (by omega)
  simp only [reach, h0, Bool.and_false, Bool.false_eq_true, if_false, beq_iff_eq]
  split <;> rfl

theorem reach_rt (w v : Nat) (hv : 1 ≤ v) (az : Bool) (wtr : Option Nat) :
    reach ⟨.rt w, az, wtr⟩ v = .pend (.loop ((v + 2 ^ w - 1) % 2 ^ w)) := by
  have h0 : (v == 0) = false := beq_eq_false_iff_ne.mpr (by omega)
  simp only [reach, h0, Bool.and_false, Bool.false_eq_true, if_false]

/-- run of the wrapper process over a list of per-clock inputs (start, run-time value) -/
def prun (prog : List Wait) : PState → List (Bool × Nat) → PState :=
  List.foldl (fun s i => pstep prog s i.1 i.2)

/-- while a wait is pending nothing but its counter changes, whatever the inputs are -/
theorem prun_pending (prog : List Wait) :
    ∀ (ins : List (Bool × Nat)) (p : Pend) (s : PState),
      s.pend = some p → resumesAt p (ins.length + 1) = true →
      ∃ p', prun prog s ins = { s with pend := some p' } ∧ p'.step = none := by
  intro ins
  induction ins with
  | nil =>
    intro p s hp hr
    refine ⟨p, by rw [← hp]; rfl, ?_⟩
    rw [resumesAt] at hr
    cases hps : p.step with
    | none => rfl
    | some p' => rw [hps] at hr; cases hr
  | cons i rest ih =>
    intro p s hp hr
    rw [List.length_cons, resumesAt] at hr
    cases hps : p.step with
    | none => rw [hps] at hr; cases hr
    | some p' =>
      rw [hps] at hr
      have hstep : pstep prog s i.1 i.2 = { s with pend := some p' } := by
        simp only [pstep, hp, hps]
      rw [prun, List.foldl_cons, hstep]
      exact ih p' { s with pend := some p' } rfl hr

theorem dlStep_getElem? (s : List Cell) (x : Nat) (i : Nat) :
    (dlStep s x)[i]? = if i < s.length then (some x :: s)[i]? else none := by
  simp only [dlStep, List.dropLast_eq_take, List.getElem?_take, List.length_cons, Nat.add_sub_cancel]

/-- the stages after `T` clocks fed from the input stream `inp` (clock number j consumes `inp j`) -/
def dlAt (n : Nat) (init : Cell) (inp : Nat → Nat) : Nat → List Cell
  | 0 => dlInit n init
  | T + 1 => dlStep (dlAt n init inp T) (inp T)

theorem dlAt_length (n : Nat) (init : Cell) (inp : Nat → Nat) (T : Nat) : (dlAt n init inp T).length = n := by
  induction T with
  | zero => simp [dlAt, dlInit]
  | succ T ih => simp [dlAt, dlStep, ih]

theorem dlAt_stage (n : Nat) (init : Cell) (inp : Nat → Nat) :
    ∀ (T i : Nat), i < n →
      (dlAt n init inp T)[i]? = some (if i < T then some (inp (T - 1 - i)) else init) := by
  intro T
  induction T with
  | zero =>
    intro i hi
    rw [dlAt, dlInit, List.getElem?_replicate, if_pos hi, if_neg (Nat.not_lt_zero i)]
  | succ T ih =>
    intro i hi
    rw [dlAt, dlStep_getElem?, dlAt_length, if_pos hi]
    cases i with
    | zero => rw [List.getElem?_cons_zero, if_pos (Nat.succ_pos T)]; rfl
    | succ j =>
      rw [List.getElem?_cons_succ, ih j (Nat.lt_of_succ_lt hi), Nat.add_sub_cancel, Nat.sub_add_eq,
        Nat.sub_right_comm]
      simp only [Nat.add_lt_add_iff_right]

theorem getLast?_eq_getElem? (s : List Cell) : s.getLast? = s[s.length - 1]? := by
  rw [List.getLast?_eq_getElem?]

theorem dlOut_dlAt (m : Nat) (init : Cell) (inp : Nat → Nat) (T x : Nat) :
    dlOut (dlAt (m + 1) init inp T) x = if m < T then some (inp (T - 1 - m)) else init := by
  rw [dlOut, getLast?_eq_getElem?, dlAt_length, Nat.add_sub_cancel, dlAt_stage _ init inp T m (Nat.lt_succ_self m)]

theorem ccNext_eq (rt : Bool) (w c E : Nat) (hc : c ≤ E) (hE : E < 2 ^ w) :
    ccNext rt w c E = (c + 1) % (E + 1) := by
  have hcond : (if rt then c ≥ E else c = E) ↔ c = E := by
    cases rt
    · exact Iff.rfl
    · simp only [if_true]; omega
  unfold ccNext
  by_cases h : c = E
  · rw [if_pos (hcond.mpr h), h, Nat.mod_self]
  · rw [if_neg (fun hh => h (hcond.mp hh)), Nat.mod_eq_of_lt (by omega), Nat.mod_eq_of_lt (by omega)]

/-- `k` clocks without reset and with a constant limit -/
def ccIter (rt : Bool) (w E : Nat) (c : Nat) : Nat → Nat
  | 0 => c
  | k + 1 => ccNext rt w (ccIter rt w E c k) E

theorem ccIter_eq (rt : Bool) (w E c : Nat) (hc : c ≤ E) (hE : E < 2 ^ w) :
    ∀ k, ccIter rt w E c k = (c + k) % (E + 1) := by
  intro k
  induction k with
  | zero => exact (Nat.mod_eq_of_lt (Nat.lt_succ_of_le hc)).symm
  | succ k ih =>
    have hlt : (c + k) % (E + 1) < E + 1 := Nat.mod_lt _ (by omega)
    rw [ccIter, ih, ccNext_eq rt w _ E (by omega) hE, Nat.mod_add_mod, Nat.add_assoc]

/-- free-running divider: `k` clocks without reset from the state `s`, constant duration -/
def divIter (cfg : DivCfg) (d : Nat) (s : Pulse) : Nat → Pulse
  | 0 => s
  | k + 1 => divStep cfg (divIter cfg d s k) false d

def togIter (cfg : TogCfg) (f g : Nat) (s : Pulse) : Nat → Pulse
  | 0 => s
  | k + 1 => togStep cfg (togIter cfg f g s k) false f g

/-- Divider and toggle both run the counter of `continuous_counter` and derive the state from the next counter
    value (`stf`): one statement for the free-running clocks of both. -/
theorem pulse_run {rt : Bool} {w E : Nat} {stf : Nat → Bool} (it : Nat → Pulse)
    (hstep : ∀ k, it (k + 1) = pulseUpdate (it k) (ccNext rt w (it k).cnt E) (stf (ccNext rt w (it k).cnt E)))
    (hc : (it 0).cnt ≤ E) (hE : E < 2 ^ w) (st : Nat → Bool) (h0 : (it 0).st = st 0)
    (hs : ∀ j, stf (((it 0).cnt + (j + 1)) % (E + 1)) = st (j + 1)) (k : Nat) :
    it (k + 1) =
      ⟨((it 0).cnt + (k + 1)) % (E + 1), st (k + 1), !st k && st (k + 1), st k && !st (k + 1)⟩ := by
  have hcnt : ∀ k, (it k).cnt = ((it 0).cnt + k) % (E + 1) := by
    intro k
    rw [← ccIter_eq rt w E _ hc hE]
    induction k with
    | zero => rfl
    | succ k ih => rw [hstep, ccIter, ← ih]; rfl
  have hrun : ∀ k, it (k + 1) = pulseUpdate (it k) (((it 0).cnt + (k + 1)) % (E + 1)) (st (k + 1)) := by
    intro k
    have hn : ccNext rt w (it k).cnt E = ((it 0).cnt + (k + 1)) % (E + 1) := by
      rw [← hcnt (k + 1), hstep k]
      rfl
    rw [hstep k, hn, hs k]
  have hst : ∀ k, (it k).st = st k := by
    intro k
    cases k with
    | zero => exact h0
    | succ k => rw [hrun k]; rfl
  rw [hrun k, pulseUpdate, hst k]

/-- `a`, `b`, `c`: the state before, between and after two consecutive `pulseUpdate`s -/
theorem edges_bool : ∀ a b c : Bool, ((!a && b) = true → (!b && c) = false) ∧
    ((a && !b) = true → (b && !c) = false) ∧ ((!a && b) && (a && !b)) = false := by decide

/-- two consecutive clocks of a pulse generator: each clock either resets (`rising = falling = 0`) or
    applies `pulseUpdate` with some next counter value and next state -/
theorem two_step_pulses (s t1 t2 : Pulse)
    (h1 : (t1.rising = false ∧ t1.falling = false) ∨ ∃ n b, t1 = pulseUpdate s n b)
    (h2 : (t2.rising = false ∧ t2.falling = false) ∨ ∃ n b, t2 = pulseUpdate t1 n b) :
    (t1.rising = true → t2.rising = false) ∧ (t1.falling = true → t2.falling = false) ∧
    (t1.rising && t1.falling) = false := by
  rcases h1 with ⟨hr, hf⟩ | ⟨n, b, rfl⟩
  · rw [hr, hf]
    exact ⟨(fun h => nomatch h), (fun h => nomatch h), rfl⟩
  · rcases h2 with ⟨hr2, hf2⟩ | ⟨n', b', rfl⟩
    · exact ⟨fun _ => hr2, fun _ => hf2, (edges_bool s.st b b).2.2⟩
    · exact edges_bool s.st b b'

theorem togStep_cases (tc : TogCfg) (s : Pulse) (r : Bool) (f g : Nat) :
    ((togStep tc s r f g).rising = false ∧ (togStep tc s r f g).falling = false) ∨
      ∃ n b, togStep tc s r f g = pulseUpdate s n b := by
  cases r
  · exact Or.inr ⟨_, _, rfl⟩
  · exact Or.inl ⟨rfl, rfl⟩

theorem divStep_cases (dc : DivCfg) (s : Pulse) (r : Bool) (d : Nat) :
    ((divStep dc s r d).rising = false ∧ (divStep dc s r d).falling = false) ∨
      ∃ n b, divStep dc s r d = pulseUpdate s n b := by
  cases r
  · exact Or.inr ⟨_, _, rfl⟩
  · exact Or.inl ⟨rfl, rfl⟩

def debRun (period : Nat) : Deb → List Bool → Deb := List.foldl (debStep period)

/-- the saturating counter, written independently of the result register -/
def sat (period : Nat) (c : Nat) (b : Bool) : Nat := if b then min (c + 1) period else c - 1

theorem debStep_true (period : Nat) (s : Deb) (h : s.cnt ≤ period) :
    debStep period s true = ⟨min (s.cnt + 1) period, s.res || decide (s.cnt = period)⟩ := by
  unfold debStep
  by_cases he : s.cnt = period
  · simp [he]
  · simp only [if_true, he, if_false, decide_false, Bool.or_false, Nat.min_eq_left (show s.cnt + 1 ≤ period by omega)]

theorem debStep_false (period : Nat) (s : Deb) :
    debStep period s false = ⟨s.cnt - 1, s.res && decide (s.cnt ≠ 0)⟩ := by
  unfold debStep
  by_cases he : s.cnt = 0
  · simp [he]
  · simp [he]

theorem debStep_cnt (period : Nat) (s : Deb) (b : Bool) (h : s.cnt ≤ period) :
    (debStep period s b).cnt = sat period s.cnt b := by
  cases b
  · rw [debStep_false]; rfl
  · rw [debStep_true period s h]; rfl

theorem debStep_le (period : Nat) (s : Deb) (b : Bool) (h : s.cnt ≤ period) :
    (debStep period s b).cnt ≤ period := by
  rw [debStep_cnt period s b h, sat]
  split <;> omega

theorem debRun_cnt (period : Nat) (bits : List Bool) :
    ∀ s : Deb, s.cnt ≤ period →
      (debRun period s bits).cnt ≤ period ∧ (debRun period s bits).cnt = bits.foldl (sat period) s.cnt := by
  induction bits with
  | nil => intro s h; exact ⟨h, rfl⟩
  | cons b rest ih =>
    intro s h
    rw [List.foldl_cons, ← debStep_cnt period s b h]
    exact ih (debStep period s b) (debStep_le period s b h)

theorem debRun_zeros (period : Nat) :
    ∀ (j : Nat) (s : Deb),
      debRun period s (List.replicate j false) = ⟨s.cnt - j, s.res && decide (j ≤ s.cnt)⟩ := by
  intro j
  induction j with
  | zero => intro s; simp [debRun]
  | succ j ih =>
    intro s
    rw [List.replicate_succ, debRun, List.foldl_cons, ← debRun, ih, debStep_false, Deb.mk.injEq, Bool.and_assoc,
      ← Bool.decide_and]
    exact ⟨by rw [Nat.sub_sub, Nat.add_comm], congrArg _ (decide_eq_decide.mpr (by dsimp only; omega))⟩

theorem countPeriods_eq_some (a b dn dd k : Nat) (ha : 0 < a) (hb : 0 < b) :
    countPeriods a b dn dd = some k ↔ roundHalfEven a b = k ∧ absDiff (k * b) a * dd ≤ dn * a := by
  have hne : ¬ (a = 0 ∨ b = 0) := by omega
  simp only [countPeriods, hne, if_false]
  split
  · next hle =>
    rw [Option.some.injEq]
    exact ⟨fun h => ⟨h, h ▸ hle⟩, fun h => h.1⟩
  · next hgt => exact ⟨fun h => (by cases h), fun h => absurd (h.1 ▸ h.2) hgt⟩

theorem absDiff_eq_zero (x y : Nat) : absDiff x y = 0 ↔ x = y := by
  unfold absDiff
  split <;> omega

theorem roundHalfEven_mul (k b : Nat) (hb : 0 < b) : roundHalfEven (k * b) b = k := by
  unfold roundHalfEven
  simp [Nat.mul_mod_left, Nat.mul_div_cancel _ hb, hb]

theorem absDiff_floor (a b : Nat) : absDiff (a / b * b) a = a % b := by
  have h := Nat.div_add_mod a b
  rw [Nat.mul_comm] at h
  unfold absDiff
  split <;> omega

theorem absDiff_ceil (a b : Nat) (hb : 0 < b) : absDiff ((a / b + 1) * b) a = b - a % b := by
  have h := Nat.div_add_mod a b
  have hlt := Nat.mod_lt a hb
  rw [Nat.mul_comm] at h
  rw [Nat.add_mul, Nat.one_mul]
  unfold absDiff
  split <;> omega

theorem roundHalfEven_cases (a b : Nat) :
    (roundHalfEven a b = a / b ∧ 2 * (a % b) ≤ b) ∨ (roundHalfEven a b = a / b + 1 ∧ b ≤ 2 * (a % b)) := by
  unfold roundHalfEven
  simp only []
  split
  · next h => exact Or.inl ⟨rfl, Nat.le_of_lt h⟩
  · split
    · next h => exact Or.inr ⟨rfl, Nat.le_of_lt h⟩
    · next h₁ h₂ =>
      split
      · exact Or.inl ⟨rfl, Nat.le_of_not_lt h₂⟩
      · exact Or.inr ⟨rfl, Nat.le_of_not_lt h₁⟩

theorem roundHalfEven_nearest (a b : Nat) (hb : 0 < b) :
    2 * absDiff (roundHalfEven a b * b) a ≤ b := by
  rcases roundHalfEven_cases a b with ⟨hk, h⟩ | ⟨hk, h⟩
  · rw [hk, absDiff_floor]; exact h
  · rw [hk, absDiff_ceil a b hb]; omega

end CohdlVerif.C16
