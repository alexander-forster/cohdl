import CohdlVerif.Model.C05

/-!
  C05 - lemmas: ranges and two's complement patterns; the printed cast of a vector target as a width adjustment
  inside kind conversions (`cast_vec`), scalar targets; the decision tables; what arrives through a join type.
-/
namespace CohdlVerif.C05

theorem two_pow_pos (n : Nat) : (0 : Int) < 2 ^ n := Int.pow_pos (by decide)

theorem two_pow_mono {m n : Nat} (h : m ≤ n) : (2 : Int) ^ m ≤ 2 ^ n := by
  have := Nat.pow_le_pow_right (show 0 < 2 by decide) h
  exact_mod_cast this

theorem two_pow_pred {n : Nat} (h : 0 < n) : (2 : Int) ^ n = 2 * 2 ^ (n - 1) := by
  cases n with
  | zero => omega
  | succ k => simp [Int.pow_succ]; omega

theorem toNat_lt_pow {x : Int} {n : Nat} (h0 : 0 ≤ x) (h : x < 2 ^ n) : x.toNat < 2 ^ n := by
  have : (x.toNat : Int) < ((2 ^ n : Nat) : Int) := by push_cast; omega
  exact_mod_cast this

theorem inRange_uns {n : Nat} {x : Int} : inRange (.uns n) x = true ↔ 0 ≤ x ∧ x ≤ 2 ^ n - 1 := by
  simp [inRange, unsMax]

theorem inRange_bv {n : Nat} {x : Int} : inRange (.bv n) x = true ↔ 0 ≤ x ∧ x ≤ 2 ^ n - 1 := by
  simp [inRange, unsMax]

theorem inRange_sgn {n : Nat} {x : Int} : inRange (.sgn n) x = true ↔ -(2 ^ (n - 1)) ≤ x ∧ x ≤ 2 ^ (n - 1) - 1 := by
  simp [inRange, sgnMin, sgnMax]

theorem inRange_bit {x : Int} : inRange .bit x = true ↔ x = 0 ∨ x = 1 := by simp [inRange]
theorem inRange_bool {x : Int} : inRange .bool x = true ↔ x = 0 ∨ x = 1 := by simp [inRange]

theorem inRange_uns_mono {x : Int} {m n : Nat} (h : m ≤ n) (hx : inRange (.uns m) x = true) :
    inRange (.uns n) x = true := by
  rw [inRange_uns] at hx ⊢
  have := two_pow_mono h
  omega

theorem inRange_sgn_mono {x : Int} {m n : Nat} (hm : 0 < m) (h : m ≤ n) (hx : inRange (.sgn m) x = true) :
    inRange (.sgn n) x = true := by
  rw [inRange_sgn] at hx ⊢
  have := two_pow_mono (show m - 1 ≤ n - 1 by omega)
  omega

theorem toNat_mod_two_pow {x : Int} {m n : Nat} (h : m ≤ n) (hx : inRange (.uns m) x = true) :
    x.toNat % 2 ^ n = x.toNat := by
  rw [inRange_uns] at hx
  have := two_pow_mono h
  exact Nat.mod_eq_of_lt (toNat_lt_pow hx.1 (by omega))

theorem emod_two_pow_nonneg (x : Int) (n : Nat) : 0 ≤ x % 2 ^ n :=
  Int.emod_nonneg x (Int.ne_of_gt (two_pow_pos n))

theorem emod_toNat_lt (x : Int) (n : Nat) : (x % 2 ^ n).toNat < 2 ^ n :=
  toNat_lt_pow (emod_two_pow_nonneg x n) (Int.emod_lt_of_pos x (two_pow_pos n))

theorem emod_neg_case {x : Int} {n : Nat} (h0 : x < 0) (h : -(2 ^ n) ≤ x) : x % 2 ^ n = x + 2 ^ n := by
  have hp := two_pow_pos n
  have : (x + 2 ^ n) % 2 ^ n = x + 2 ^ n := Int.emod_eq_of_lt (by omega) (by omega)
  rw [← this]; simp

theorem sgn_pattern {x : Int} {n : Nat} (hn : 0 < n) (hx : inRange (.sgn n) x = true) :
    (0 ≤ x ∧ x % 2 ^ n = x ∧ x < 2 ^ (n - 1)) ∨ (x < 0 ∧ x % 2 ^ n = x + 2 ^ n ∧ 2 ^ (n - 1) ≤ x + 2 ^ n) := by
  rw [inRange_sgn] at hx
  have hp := two_pow_pred hn
  have hq := two_pow_pos (n - 1)
  by_cases h0 : 0 ≤ x
  · exact Or.inl ⟨h0, Int.emod_eq_of_lt h0 (by omega), by omega⟩
  · exact Or.inr ⟨by omega, emod_neg_case (by omega) (by omega), by omega⟩

theorem twos_pattern' {x : Int} {n : Nat} (hn : 0 < n) (hx : inRange (.sgn n) x = true) :
    twos n (x % 2 ^ n) = x := by
  unfold twos
  rcases sgn_pattern hn hx with ⟨_, h2, h3⟩ | ⟨_, h2, h3⟩
  · rw [h2]; simp [h3]
  · rw [h2]; split <;> omega

theorem twos_pattern {x : Int} {n : Nat} (hn : 0 < n) (hx : inRange (.sgn n) x = true) :
    twos n ((x % 2 ^ n).toNat : Int) = x := by
  rw [Int.toNat_of_nonneg (emod_two_pow_nonneg x n)]; exact twos_pattern' hn hx

theorem twos_inRange (n : Nat) (hn : 0 < n) (x : Int) (hx : inRange (.bv n) x = true) :
    inRange (.sgn n) (twos n x) = true := by
  rw [inRange_bv] at hx
  rw [inRange_sgn]
  have := two_pow_pred hn
  unfold twos; split <;> omega

theorem twos_emod (n : Nat) (hn : 0 < n) (x : Int) (hx : inRange (.bv n) x = true) : twos n x % 2 ^ n = x := by
  rw [inRange_bv] at hx
  have hp := two_pow_pos n
  have h1 := two_pow_pred hn
  unfold twos
  split
  · exact Int.emod_eq_of_lt hx.1 (by omega)
  · rw [emod_neg_case (by omega) (by omega)]; omega

/-- the left side is `vresize .sgn` on the pattern of x at width m -/
theorem sign_extend_pattern {x : Int} {m n : Nat} (hm : 0 < m) (h : m ≤ n) (hx : inRange (.sgn m) x = true) :
    (if (x % 2 ^ m).toNat < 2 ^ (m - 1) then (x % 2 ^ m).toNat else (x % 2 ^ m).toNat + 2 ^ n - 2 ^ m) =
      (x % 2 ^ n).toNat := by
  have hlt : x < 2 ^ n ∧ -(2 ^ n) ≤ x := by
    have := two_pow_mono h
    have := two_pow_pred hm
    have := inRange_sgn.mp hx
    omega
  rcases sgn_pattern hm hx with ⟨h0, h2, h3⟩ | ⟨h0, h2, h3⟩
  · rw [h2, Int.emod_eq_of_lt h0 hlt.1, if_pos (toNat_lt_pow h0 h3)]
  · -- negative: the pattern `x + 2^m` has its top bit set, and `2^n - 2^m` is added; computed in `Int`
    have hq := two_pow_pos (m - 1)
    have hge : ¬ (x + 2 ^ m).toNat < 2 ^ (m - 1) := by
      have c1 : ((2 ^ (m - 1) : Nat) : Int) = 2 ^ (m - 1) := Int.natCast_pow 2 _
      omega
    have hle : 2 ^ m ≤ 2 ^ n := Nat.pow_le_pow_right (by decide) h
    rw [h2, emod_neg_case h0 hlt.2, if_neg hge]
    apply Int.ofNat_inj.mp
    rw [Int.toNat_of_nonneg (by omega), Int.ofNat_sub (by omega)]
    push_cast
    rw [Int.toNat_of_nonneg (by omega)]
    omega

theorem truth_inRange (k : Int) : inRange .bool (if k = 0 then 0 else 1) = true := by
  split <;> rfl

theorem truth_eq {k : Int} (h : (k == 0 || k == 1) = true) : (if k = 0 then 0 else 1) = k := by
  simp only [Bool.or_eq_true, beq_iff_eq] at h
  rcases h with rfl | rfl <;> rfl

/-- vector widths are positive in cohdl (`assert size > 0`) -/
def Ty.wf : Ty → Bool
  | .bv n | .uns n | .sgn n => decide (0 < n)
  | _ => true

/-- numeric types: the value is a number -/
def Ty.isNum : Ty → Bool
  | .uns _ | .sgn _ | .int => true
  | _ => false

/-- what `cast_preserves` states for one (declared type, target type, source type, value) -/
def CastGood (vt t s : Ty) (x : Int) : Prop :=
  ∃ e, castModel vt t s = some e ∧ vhdlWellTyped vt (evalV e (encode s x)) = true ∧
    decodeAs t (evalV e (encode s x)) = some (convert t s x)

/-! For a vector source the front end accepts, `format_cast` prints a width adjustment of the source (`coreCast`,
  computed in the source's own VHDL kind) inside the kind conversions that lead from the source's kind to the kind
  of the declared object (`wrap`).  The declared object may be of another kind than the target (slices, views):
  only `wrap` depends on it, and `decodeAs` does not look at the kind. -/

/-- bit pattern of a canonical value of the vector type `mkVec k n` -/
def pat : Kind → Nat → Int → Nat
  | .sgn, n, x => (x % 2 ^ n).toNat
  | _, _, x => x.toNat

def coreCast (n m : Nat) : VExpr := if n = m then .x else .resize .x n

def wrap : VKind → VKind → VExpr → VExpr
  | .slv, .uns, e => .asUns e
  | .slv, .sgn, e => .asSgn e
  | .uns, .slv, e | .sgn, .slv, e => .asSlv e
  | .uns, .sgn, e => .asSgn (.asSlv e)
  | .sgn, .uns, e => .asUns (.asSlv e)
  | _, _, e => e

theorem isVec_eq_mkVec {t : Ty} (ht : t.isVec = true) : ∃ k n, t = mkVec k n := by
  cases t <;> first | exact ⟨.bv, _, rfl⟩ | exact ⟨.uns, _, rfl⟩ | exact ⟨.sgn, _, rfl⟩ | cases ht

theorem wf_mkVec (k : Kind) (n : Nat) : (mkVec k n).wf = decide (0 < n) := by
  cases k <;> rfl

theorem encode_mkVec (k : Kind) (n : Nat) (x : Int) : encode (mkVec k n) x = .vec (vkind k) n (pat k n x) := by
  cases k <;> rfl

theorem castModel_vec (k : Kind) {kt ks : Kind} {n m : Nat}
    (hf : assignFront (mkVec kt n) (.rt (mkVec ks m)) = true) :
    castModel (mkVec k n) (mkVec kt n) (mkVec ks m) = some (wrap (vkind ks) (vkind k) (coreCast n m)) := by
  cases kt <;> cases ks <;> cases k <;>
    unfold mkVec assignFront at hf <;>
    unfold castModel coreCast mkVec vkind wrap <;>
    simp at hf ⊢ <;> first | omega | (split <;> simp <;> omega)

theorem evalV_wrap {e : VExpr} {v : VVal} {ks : VKind} {w p : Nat} (kv : VKind) (h : evalV e v = .vec ks w p) :
    evalV (wrap ks kv e) v = .vec kv w p := by
  cases ks <;> cases kv <;> simp only [wrap, evalV, h]

theorem wellTyped_mkVec (k : Kind) (n p : Nat) : vhdlWellTyped (mkVec k n) (.vec (vkind k) n p) = true := by
  cases k <;> simp [mkVec, vkind, vhdlWellTyped]

theorem decodeAs_pat (k : Kind) {n : Nat} (hn : 0 < n) (kv : VKind) {y : Int}
    (hy : inRange (mkVec k n) y = true) : decodeAs (mkVec k n) (.vec kv n (pat k n y)) = some y := by
  cases k
  · simp [decodeAs, mkVec, pat, Int.toNat_of_nonneg (inRange_bv.mp hy).1]
  · simp [decodeAs, mkVec, pat, Int.toNat_of_nonneg (inRange_uns.mp hy).1]
  · simp only [decodeAs, mkVec, pat, if_true, twos_pattern hn hy]

theorem evalV_coreCast {kt ks : Kind} {n m : Nat} (hf : assignFront (mkVec kt n) (.rt (mkVec ks m)) = true)
    (hm : 0 < m) {x : Int} (hx : inRange (mkVec ks m) x = true) :
    evalV (coreCast n m) (encode (mkVec ks m) x) =
      .vec (vkind ks) n (pat kt n (convert (mkVec kt n) (mkVec ks m) x)) := by
  cases kt <;> cases ks <;> unfold mkVec assignFront at hf <;> simp only [beq_iff_eq, decide_eq_true_eq] at hf
  case uns.sgn => cases hf
  case uns.uns =>
    by_cases h : n = m
    · subst h; rw [coreCast, if_pos rfl]; rfl
    · rw [coreCast, if_neg h]
      exact congrArg (VVal.vec .uns n) (toNat_mod_two_pow hf hx)
  case sgn.uns =>
    rw [coreCast, if_neg (show n ≠ m by omega)]
    have h0 := (inRange_uns.mp hx).1
    have := two_pow_mono (Nat.le_of_lt hf)
    refine congrArg (VVal.vec .uns n) ?_
    show x.toNat % 2 ^ n = (x % 2 ^ n).toNat
    rw [toNat_mod_two_pow (Nat.le_of_lt hf) hx, Int.emod_eq_of_lt h0 (by have := inRange_uns.mp hx; omega)]
  case sgn.sgn =>
    by_cases h : n = m
    · subst h; rw [coreCast, if_pos rfl]; rfl
    · rw [coreCast, if_neg h]
      show vresize .sgn m _ n = _
      rw [vresize, if_pos hf]
      exact congrArg (VVal.vec .sgn n) (sign_extend_pattern hm hf hx)
  case sgn.bv =>
    subst hf
    rw [coreCast, if_pos rfl]
    show VVal.vec .slv n x.toNat = .vec .slv n (twos n x % 2 ^ n).toNat
    rw [twos_emod n hm x hx]
  all_goals
    subst hf
    rw [coreCast, if_pos rfl]
    rfl

theorem convert_inRange_vec {kt ks : Kind} {n m : Nat} (hf : assignFront (mkVec kt n) (.rt (mkVec ks m)) = true)
    (hm : 0 < m) {x : Int} (hx : inRange (mkVec ks m) x = true) :
    inRange (mkVec kt n) (convert (mkVec kt n) (mkVec ks m) x) = true := by
  cases kt <;> cases ks <;> unfold mkVec assignFront at hf <;> simp only [beq_iff_eq, decide_eq_true_eq] at hf
  case uns.sgn => cases hf
  case uns.uns => exact inRange_uns_mono hf hx
  case sgn.sgn => exact inRange_sgn_mono hm hf hx
  case sgn.uns =>
    have := inRange_uns.mp hx
    have := two_pow_mono (show m ≤ n - 1 by omega)
    have := two_pow_pos (n - 1)
    show inRange (.sgn n) x = true
    exact inRange_sgn.mpr (by omega)
  case sgn.bv => subst hf; exact twos_inRange n hm x hx
  case bv.sgn =>
    subst hf
    have := emod_two_pow_nonneg x n
    have := Int.emod_lt_of_pos x (two_pow_pos n)
    show inRange (.bv n) (x % 2 ^ n) = true
    exact inRange_bv.mpr (by omega)
  all_goals
    subst hf
    exact hx

theorem cast_vec (k : Kind) {kt ks : Kind} {n m : Nat} (hf : assignFront (mkVec kt n) (.rt (mkVec ks m)) = true)
    (hn : 0 < n) (hm : 0 < m) {x : Int} (hx : inRange (mkVec ks m) x = true) :
    CastGood (mkVec k n) (mkVec kt n) (mkVec ks m) x := by
  have he := evalV_wrap (vkind k) (evalV_coreCast hf hm hx)
  refine ⟨_, castModel_vec k hf, ?_, ?_⟩
  · rw [he]; exact wellTyped_mkVec k n _
  · rw [he]; exact decodeAs_pat kt hn _ (convert_inRange_vec hf hm hx)

theorem pat_eq_zero (k : Kind) {n : Nat} (hn : 0 < n) {x : Int} (hx : inRange (mkVec k n) x = true) :
    pat k n x = 0 ↔ x = 0 := by
  cases k
  · have := inRange_bv.mp hx
    show x.toNat = 0 ↔ _
    omega
  · have := inRange_uns.mp hx
    show x.toNat = 0 ↔ _
    omega
  · show (x % 2 ^ n).toNat = 0 ↔ _
    have := two_pow_pos (n - 1)
    rcases sgn_pattern hn hx with ⟨_, h2, _⟩ | ⟨_, h2, _⟩ <;> rw [h2] <;> omega

/-- Python truthiness into bool (outside the property sentence; checked all the same) -/
theorem cast_bool_vec (k : Kind) {n : Nat} (hn : 0 < n) {x : Int} (hx : inRange (mkVec k n) x = true) :
    CastGood .bool .bool (mkVec k n) x := by
  refine ⟨.neZero .x, by cases k <;> rfl, ?_⟩
  rw [encode_mkVec]
  refine ⟨rfl, ?_⟩
  show some (if (pat k n x != 0) = true then 1 else 0) = some (convert .bool (mkVec k n) x)
  have hc : convert .bool (mkVec k n) x = if x = 0 then 0 else 1 := by cases k <;> rfl
  rw [hc]
  by_cases h : x = 0
  · rw [if_pos h, (pat_eq_zero k hn hx).mpr h]; rfl
  · rw [if_neg h, if_pos (by simpa using mt (pat_eq_zero k hn hx).mp h)]

theorem cast_scalar {t s : Ty} (ht : t.isVec = false) (hb : (castModel t t s).isSome = true) (hs : s ≠ .int)
    (hws : s.wf = true) {x : Int} (hx : inRange s x = true) : CastGood t t s x := by
  cases t <;> cases ht
  case bit =>
    cases s <;> first
      | exact Bool.noConfusion hb
      | (rcases inRange_bit.mp hx with rfl | rfl <;> exact ⟨_, rfl, rfl, rfl⟩)
  case bool =>
    cases s with
    | bit | bool => all_goals (rcases inRange_bit.mp hx with rfl | rfl <;> exact ⟨_, rfl, rfl, rfl⟩)
    | bv n => exact cast_bool_vec .bv (of_decide_eq_true hws) hx
    | uns n => exact cast_bool_vec .uns (of_decide_eq_true hws) hx
    | sgn n => exact cast_bool_vec .sgn (of_decide_eq_true hws) hx
    | int => exact absurd rfl hs
  case int =>
    cases s with
    -- `to_integer` reads the pattern as the source type does
    | uns n => exact ⟨.toInteger .x, rfl, rfl, congrArg some (Int.toNat_of_nonneg (inRange_uns.mp hx).1)⟩
    | sgn n => exact ⟨.toInteger .x, rfl, rfl, congrArg some (twos_pattern (of_decide_eq_true hws) hx)⟩
    | int => exact absurd rfl hs
    | bit | bool | bv _ => all_goals exact Bool.noConfusion hb

theorem vhdlTarget_assign (t : Ty) : vhdlTarget .assign t = t := by
  cases t <;> rfl

theorem vhdlTarget_scalar (f : Form) {t : Ty} (ht : t.isVec = false) : vhdlTarget f t = t := by
  cases f <;> cases t <;> first | rfl | cases ht

theorem vhdlTarget_mkVec (f : Form) (kt : Kind) (n : Nat) : ∃ k, vhdlTarget f (mkVec kt n) = mkVec k n :=
  ⟨match f, kt with | .sub k, .bv => k | .view k, _ => k | _, kt => kt, by cases f <;> cases kt <;> rfl⟩

theorem backOk_assign_rt (t s : Ty) : backOk .assign t (.rt s) = (castModel t t s).isSome := by
  rw [backOk, vhdlTarget_assign]

theorem initFront_rt (r s : Ty) (h : initFront r (.rt s) = true) : assignFront r (.rt s) = true := by
  cases r <;> cases s <;> first | rfl | exact h

/-- every form checks a run-time source for a vector target with `_assign` (declarations with `T(value)`, which is
    the same check on vectors) -/
theorem assignOk_front_vec (f : Form) {t s : Ty} (ht : t.isVec = true) (h : assignOk f t (.rt s) = true) :
    assignFront t (.rt s) = true := by
  cases f with
  | assign | sub _ | view _ => exact (Bool.and_eq_true_iff.mp h).1
  | init =>
    have h1 := (Bool.and_eq_true_iff.mp h).1
    rw [ht] at h1
    exact initFront_rt t s h1
  | portIn | portOut => exact (Bool.and_eq_true_iff.mp h).2

theorem front_src_isVec {t s : Ty} (ht : t.isVec = true) (hf : assignFront t (.rt s) = true) (hs : s ≠ .int) :
    s.isVec = true := by
  cases t <;> cases ht <;> cases s <;> first
    | rfl
    | exact absurd rfl hs
    | exact Bool.noConfusion hf

/-- between vectors the back end finds a cast for whatever the front end accepts -/
theorem assignOk_assign_vec {t s : Ty} (ht : t.isVec = true) (hs : s.isVec = true) :
    assignOk .assign t (.rt s) = assignFront t (.rt s) := by
  obtain ⟨kt, n, rfl⟩ := isVec_eq_mkVec ht
  obtain ⟨ks, m, rfl⟩ := isVec_eq_mkVec hs
  show (assignFront _ _ && backOk .assign _ _) = _
  cases hf : assignFront (mkVec kt n) (.rt (mkVec ks m))
  · rfl
  · rw [backOk_assign_rt, castModel_vec kt hf]; rfl

theorem inRange_sgn_b01 {n : Nat} {b : Bool} (h : assignFront (.sgn n) (.blit b) = true) :
    inRange (.sgn n) (if b then 1 else 0) = true := by
  have := two_pow_pos (n - 1)
  rw [inRange_sgn]
  unfold assignFront at h
  cases b <;> simp [sgnMax] at h ⊢ <;> omega

/-- `mustReject` is case by case the negation of the check in `_assign`, or false; the width comparisons of the
    numeric kinds and the sign bound of `True` into Signed are spelt differently -/
theorem front_not_reject (t : Ty) (s : Src) (h : assignFront t s = true) : mustReject t s = false := by
  cases s with
  | rt st =>
    cases t <;> cases st <;> first
      | rfl
      | exact Bool.noConfusion h
      | exact congrArg not h
      | (unfold assignFront at h; unfold mustReject; simp at h ⊢; omega)
  | blit b =>
    cases t with
    | uns n => cases b <;> exact congrArg not h
    | sgn n => exact congrArg not (inRange_sgn_b01 h)
    | bit | bool | bv _ | int => all_goals rfl
  | lit _ | null | full | str _ =>
    all_goals cases t <;> first
      | rfl
      | exact Bool.noConfusion h
      | exact congrArg not h

theorem init_not_reject (t : Ty) (s : Src) (h : initFront t s = true) : mustReject t s = false := by
  cases t <;> cases s <;> first
    | rfl
    | exact front_not_reject _ _ h
    | (rename_i st; cases st <;> first | rfl | exact front_not_reject _ _ h | exact Bool.noConfusion h)

theorem convert_inRange (r s : Ty) (x : Int) (hf : assignFront r (.rt s) = true) (hs : s ≠ .int)
    (hws : s.wf = true) (hx : inRange s x = true) : inRange r (convert r s x) = true := by
  cases hr : r.isVec
  · cases r <;> cases hr <;> cases s <;> first
      | rfl
      | exact hx
      | exact absurd rfl hs
      | exact Bool.noConfusion hf
      | exact truth_inRange x
  · obtain ⟨kr, n, rfl⟩ := isVec_eq_mkVec hr
    obtain ⟨ks, m, rfl⟩ := isVec_eq_mkVec (front_src_isVec hr hf hs)
    exact convert_inRange_vec hf (by simpa [wf_mkVec] using hws) hx

/-- going through a join type does not change what arrives: only a BitVector on the way makes `convert` more
    than the identity, and then all three widths are equal -/
theorem convert_comp (t r s : Ty) (x : Int) (hrs : assignFront r (.rt s) = true) (htr : assignFront t (.rt r) = true)
    (hal : allowed t (.rt s) = true) (hs : s ≠ .int) (hr : r ≠ .int) (hws : s.wf = true)
    (hx : inRange s x = true) : convert t r (convert r s x) = convert t s x := by
  cases r <;> first | exact absurd rfl hr | skip
  all_goals cases s <;> first
    | exact Bool.noConfusion hrs
    | exact absurd rfl hs
    | skip
  all_goals cases t <;> first
    | rfl
    | exact Bool.noConfusion htr
    | exact Bool.noConfusion hal
    | skip
  all_goals
    unfold assignFront at hrs htr
    unfold allowed at hal
    simp only [beq_iff_eq, decide_eq_true_eq] at hrs htr hal
    first
    | omega
    | (subst_vars
       first
       | rfl
       | exact twos_emod _ (of_decide_eq_true hws) x hx
       | exact twos_pattern' (of_decide_eq_true hws) hx)

theorem convertLit_litOf {l : Src} {v : Int} (h : litOf l = some v) (t : Ty) :
    convertLit t l = some (if t = .bool then (if v = 0 then 0 else 1) else v) := by
  cases l <;> first | cases h | skip
  · cases t <;> rfl
  · rename_i b; cases t <;> cases b <;> rfl

theorem assignFront_litOf {l : Src} {v : Int} (h : litOf l = some v) {t : Ty} (hf : assignFront t l = true) :
    inRange t v = true := by
  cases l <;> first | cases h | skip
  · cases t <;> first | exact hf | rfl | exact Bool.noConfusion hf
  · rename_i b
    cases t with
    | sgn n => exact inRange_sgn_b01 hf
    | bv _ => exact Bool.noConfusion hf
    | bit | bool | uns _ | int => all_goals cases b <;> first | rfl | exact hf

theorem allowed_litOf {l : Src} {v : Int} (h : litOf l = some v) {t : Ty} (hal : allowed t l = true) :
    inRange t v = true := by
  cases l <;> first | cases h | skip
  · cases t <;> first | exact hal | rfl | exact Bool.noConfusion hal
  · rename_i b
    cases t <;> first
      | exact Bool.noConfusion hal
      | exact hal
      | (cases b <;> rfl)

/-- an int / bool literal that reaches the target through a join type r -/
theorem literal_comp (t r : Ty) (l : Src) {v : Int} (hl : litOf l = some v)
    (hrl : initFront r l = true) (htr : assignFront t (.rt r) = true) (hal : allowed t l = true)
    (hr : r ≠ .int) :
    ∃ y, convertLit r l = some y ∧ inRange r y = true ∧ some (convert t r y) = convertLit t l := by
  have ht := allowed_litOf hl hal
  rw [convertLit_litOf hl r, convertLit_litOf hl t]
  refine ⟨_, rfl, ?_⟩
  cases r with
  | int => exact absurd rfl hr
  | bv _ => cases l <;> first | exact Bool.noConfusion hrl | cases hl
  | bool =>
    refine ⟨truth_inRange v, ?_⟩
    cases t <;> first
      | exact Bool.noConfusion htr
      | rfl
      | exact congrArg some (truth_eq ht)
  | bit | uns _ | sgn _ =>
    all_goals
      have hv := assignFront_litOf hl hrl
      refine ⟨hv, ?_⟩
      cases t <;> first
        | exact Bool.noConfusion htr
        | rfl
        | exact congrArg some (truth_eq hv).symm
        | (cases l <;> first | exact Bool.noConfusion hal | cases hl)

theorem sameLiteral_mem (opts : List Src) (a : Src) (h : sameLiteral opts = some a) :
    a.isLit = true ∧ ∀ o ∈ opts, o = a := by
  cases opts with
  | nil => cases h
  | cons b rest =>
    simp only [sameLiteral, Option.ite_none_right_eq_some, Option.some.injEq, Bool.and_eq_true,
      List.all_eq_true, beq_iff_eq] at h
    obtain ⟨⟨hl, hall⟩, rfl⟩ := h
    exact ⟨hl, List.forall_mem_cons.mpr ⟨rfl, hall⟩⟩

theorem assignValue_lit (t : Ty) (l : Src) (x : Int) (hl : l.isLit = true) : assignValue t l x = convertLit t l := by
  cases l <;> simp_all [assignValue, Src.isLit]

theorem tryJoin_some {opts : List Src} {r : Ty} (h : tryJoin opts = some r) :
    opts.any (fun o => o == .null || o == .full) = false ∧
      opts.foldl (fun acc o => acc.bind (fun r => joinStep r o)) (some none) = some (some r) ∧
      opts.all (initFront r) = true := by
  unfold tryJoin at h
  split at h
  · cases h
  · split at h
    · split at h
      · cases h
        exact ⟨Bool.eq_false_iff.mpr ‹_›, ‹_›, ‹_›⟩
      · cases h
    · cases h

theorem tryJoin_no_nullfull (opts : List Src) (r : Ty) (h : tryJoin opts = some r) (o : Src) (ho : o ∈ opts) :
    o ≠ .null ∧ o ≠ .full := by
  have := (tryJoin_some h).1
  simp only [List.any_eq_false, Bool.or_eq_true, beq_iff_eq, not_or] at this
  exact this o ho

theorem joinStep_cases (r : Option Ty) (o : Src) (r2 : Option Ty) (h : joinStep r o = some r2) :
    r2 = r ∨ (r = none ∧ r2 = joinStart o) ∨ (r2 = some .bit ∧ o = .rt .bit) := by
  unfold joinStep at h
  repeat' split at h
  all_goals first
    | (simp at h; done)
    | (injection h with h; subst h; simp)

theorem foldl_bind_inv {α β : Type} (f : α → β → Option α) (P : α → Prop) :
    ∀ (l : List β), (∀ a b a', b ∈ l → P a → f a b = some a' → P a') →
      ∀ (acc : Option α), (∀ a, acc = some a → P a) →
        ∀ a', l.foldl (fun acc b => acc.bind (f · b)) acc = some a' → P a'
  | [], _, _, hacc, a', h => hacc a' h
  | b :: l, hstep, acc, hacc, a', h =>
    foldl_bind_inv f P l (fun a b a' hm => hstep a b a' (List.mem_cons_of_mem _ hm)) (acc.bind (f · b))
      (fun a1 h1 => by
        cases acc with
        | none => cases h1
        | some a => exact hstep a b a1 (List.mem_cons_self ..) (hacc a rfl) h1)
      a' h

/-- the join type is the type of one of the run-time alternatives, or bool (from True / False) -/
theorem tryJoin_type (opts : List Src) (r : Ty) (h : tryJoin opts = some r) : .rt r ∈ opts ∨ r = .bool := by
  refine foldl_bind_inv joinStep (fun r => ∀ r', r = some r' → .rt r' ∈ opts ∨ r' = .bool) opts ?_
    (some none) (fun _ h => by cases h; exact fun _ h => nomatch h) (some r) (tryJoin_some h).2.1 r rfl
  intro a o a' ho ha hstep r' hr'
  rcases joinStep_cases a o a' hstep with h1 | ⟨_, h1⟩ | ⟨h1, h2⟩
  · exact ha r' (by rw [← h1, hr'])
  · rw [hr'] at h1
    cases o <;> simp [joinStart] at h1
    · subst h1; exact Or.inl ho
    · subst h1; exact Or.inr rfl
  · rw [hr'] at h1; injection h1 with h1; subst h1; subst h2; exact Or.inl ho

end CohdlVerif.C05
