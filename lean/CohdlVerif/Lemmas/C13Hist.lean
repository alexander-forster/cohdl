import CohdlVerif.Lemmas.C13Types
/-! C13 part A - helper lemmas about whole request histories starting from the import-time table -/
namespace CohdlVerif.C13

/-- requests the real code accepts (everything else raises AssertionError and leaves the caches untouched) -/
def legal : Key → Bool
  | .root _ => true
  | .vec _ _ w => w != 0
  | .arr e _ => legal e && isPrim e
  | .q qk d t => legal t && dirOk qk d
  | .anon .. => false

theorem inv_fold (rs : List Root) : ∀ st : St, Inv st →
    Inv (rs.foldl (fun st r => match ensure fuel st (.root r) with | some (st', _) => st' | none => st) st) := by
  induction rs with
  | nil => intro st h; exact h
  | cons r rs ih =>
    intro st h
    simp only [List.foldl_cons]
    apply ih
    obtain ⟨ext, i, he, hI, _, _⟩ := ensure_spec fuel st (.root r) h (rank_lt_fuel _) rfl
    simp [he, hI]

theorem inv_init : Inv initSt := inv_fold allRoots [] inv_nil

theorem init_length : initSt.length = 15 := by decide

theorem init_roots (r : Root) : (find initSt (.root r)).isSome = true := by cases r <;> decide

/-- the table after a history: invariant, at least the import-time classes, results point into it -/
theorem hist_final (h : List Key) :
    Inv (runHist initSt h).1 ∧ fuel ≤ (runHist initSt h).1.length ∧
    ∀ (n : Nat) (k : Key) (i : Nat), h[n]? = some k → (runHist initSt h).2[n]? = some (some i) →
      find (runHist initSt h).1 k = some i := by
  obtain ⟨ext, h1, hI, _, hf⟩ := runHist_spec h initSt inv_init
  rw [h1]
  refine ⟨hI, ?_, hf⟩
  simp [init_length, fuel]; omega

theorem self_mem_anc (f : Nat) (k : Key) : k ∈ anc f k := by cases f <;> simp [anc]

theorem base_mem_anc (k b : Key) (hb : b ∈ baseKeys k) : b ∈ anc (rank k) k := by
  have := rank_base_lt k b hb
  cases hr : rank k with
  | zero => omega
  | succ r =>
    simp only [anc, List.mem_cons, List.mem_flatMap]
    exact Or.inr ⟨b, hb, self_mem_anc r b⟩

theorem subscript_isSome (st1 : St) (r : Option Nat) (c : Bool) (k : Key) (hI : Inv st1) (hg : goodKey k = true)
    (hr : r.isSome = true) (hc : c = true) : (subscript (st1, r) c k).2.isSome = true := by
  obtain ⟨j, rfl⟩ := Option.isSome_iff_exists.mp hr
  obtain ⟨e2, i, h, _, _⟩ := ens_spec st1 k hI hg
  simp [subscript, hc, h]

theorem evalReq_legal : ∀ (k : Key) (st : St), Inv st → (∀ r, (find st (.root r)).isSome = true) → legal k = true →
    (evalReq st k).2.isSome = true := by
  intro k
  induction k with
  | root r => intro st _ hr _; simpa [evalReq] using hr r
  | vec k o w =>
    intro st hI _ hl
    obtain ⟨ext, i, h, _, _⟩ := ens_spec st (.vec k o w) hI rfl
    simp [legal] at hl
    simp [evalReq, hl, h]
  | anon a b c d e => intro st _ _ hl; simp [legal] at hl
  | arr e n ih =>
    intro st hI hr hl
    simp only [legal, Bool.and_eq_true] at hl
    obtain ⟨e1, he1, hI1, _⟩ := evalReq_spec e st hI
    rw [evalReq_arr, ← Prod.eta (evalReq st e), he1]
    exact subscript_isSome _ _ _ _ hI1 rfl (ih st hI hr hl.1) hl.2
  | q qk d t ih =>
    intro st hI hr hl
    simp only [legal, Bool.and_eq_true] at hl
    obtain ⟨e1, he1, hI1, _⟩ := evalReq_spec t st hI
    rw [evalReq_q, ← Prod.eta (evalReq st t), he1]
    exact subscript_isSome _ _ _ _ hI1 rfl (ih st hI hr hl.1) hl.2

theorem runHist_legal : ∀ (h : List Key) (st : St), Inv st → (∀ r, (find st (.root r)).isSome = true) →
    ∀ (n : Nat) (k : Key), h[n]? = some k → legal k = true → ∃ i, (runHist st h).2[n]? = some (some i) := by
  intro h
  induction h with
  | nil => intro st _ _ n k hk; simp at hk
  | cons k0 ks ih =>
    intro st hI hr n k hk hl
    obtain ⟨e1, he1, hI1, _⟩ := evalReq_spec k0 st hI
    cases n with
    | zero =>
      simp at hk; subst hk
      obtain ⟨i, hi⟩ := Option.isSome_iff_exists.mp (evalReq_legal k0 st hI hr hl)
      exact ⟨i, by simp [runHist, hi]⟩
    | succ n =>
      simp only [List.getElem?_cons_succ] at hk
      simp only [runHist, List.getElem?_cons_succ]
      apply ih _ (he1 ▸ hI1) _ n k hk hl
      intro r
      obtain ⟨i, hi⟩ := Option.isSome_iff_exists.mp (hr r)
      simp [he1, find_append_some st e1 _ i hi]

end CohdlVerif.C13

