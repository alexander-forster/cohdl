import CohdlVerif.Model.C09
import Mathlib.Algebra.Group.Nat.Defs

/-! C09 - the arithmetic behind constant folding: ripple-carry addition, two's-complement patterns, the representable
    ranges and their closure under the operators.
    With Mathlib in scope `2 ^ w` on `Nat` elaborates through `Monoid.npow`, here and in Props/C09.lean, while the
    model file uses core's `instPowNat`; the two are reducibly equal, so core lemmas still rewrite. -/
namespace CohdlVerif.C09

theorem of_ite_some {α : Type} {c : Prop} [Decidable c] {x v : α} (h : (if c then some x else none) = some v) :
    c ∧ x = v := by
  split at h
  · exact ⟨‹c›, Option.some.inj h⟩
  · cases h

theorem of_ite_none {α : Type} {c : Prop} [Decidable c] {x v : α} (h : (if c then none else some x) = some v) :
    ¬c ∧ x = v := by
  split at h
  · cases h
  · exact ⟨‹¬c›, Option.some.inj h⟩

theorem toNat_mod_two_beq (n : Nat) : (n % 2 == 1).toNat = n % 2 := by
  rcases Nat.mod_two_eq_zero_or_one n with h | h <;> simp [h]

theorem fullAdder_carry (x y c : Nat) (hc : c ≤ 1) :
    x / 2 + y / 2 + (decide (x % 2 + y % 2 + c > 1)).toNat = (x + y + c) / 2 := by
  by_cases h : x % 2 + y % 2 + c > 1
  · rw [decide_eq_true h]; show _ + 1 = _; omega
  · rw [decide_eq_false h]; show _ + 0 = _; omega

theorem bitsToNat_rippleAdd (t : Nat) : ∀ (x y : Nat) (c : Bool),
    bitsToNat (rippleAdd (natToBits t x) (natToBits t y) c) = (x + y + c.toNat) % 2 ^ t := by
  induction t with
  | zero => exact fun x y c => (Nat.mod_one _).symm
  | succ t ih =>
    intro x y c
    dsimp only [natToBits, rippleAdd, bitsToNat]
    rw [ih, toNat_mod_two_beq, toNat_mod_two_beq, toNat_mod_two_beq, fullAdder_carry x y _ (Bool.toNat_le c),
      Nat.pow_succ', Nat.mod_mul]
    congr 1
    omega

theorem ripple_eq (t a b : Nat) : ripple t a b = (a + b) % 2 ^ t :=
  bitsToNat_rippleAdd t a b false

theorem M_pos (w : Nat) : (0 : Int) < ((2 ^ w : Nat) : Int) :=
  Int.natCast_pos.mpr (Nat.two_pow_pos w)

theorem two_pow_pred (w : Nat) (hw : 1 ≤ w) : 2 ^ w = 2 * 2 ^ (w - 1) :=
  (congrArg (2 ^ ·) (Nat.sub_add_cancel hw).symm).trans Nat.pow_succ'

theorem pat_cast (w : Nat) (i : Int) : ((pat w i : Nat) : Int) = i % ((2 ^ w : Nat) : Int) :=
  Int.toNat_of_nonneg (Int.emod_nonneg _ (Int.ne_of_gt (M_pos w)))

theorem pat_lt (w : Nat) (i : Int) : pat w i < 2 ^ w := by
  have h := Int.emod_lt_of_pos i (M_pos w)
  have := pat_cast w i
  omega

theorem pat_natCast (w n : Nat) : pat w (n : Int) = n % 2 ^ w :=
  Int.ofNat_inj.mp ((pat_cast w n).trans (Int.natCast_emod n (2 ^ w)).symm)

theorem pat_of_lt (w n : Nat) (h : n < 2 ^ w) : pat w (n : Int) = n := by
  rw [pat_natCast, Nat.mod_eq_of_lt h]

theorem pat_congr (w : Nat) (i j : Int) (h : i % ((2 ^ w : Nat) : Int) = j % ((2 ^ w : Nat) : Int)) :
    pat w i = pat w j := by
  unfold pat; rw [h]

theorem pat_absorb_r (w : Nat) (i j : Int) : pat w (i + (pat w j : Nat)) = pat w (i + j) := by
  apply pat_congr; rw [pat_cast, Int.add_emod_emod]

theorem pat_absorb_l (w : Nat) (i j : Int) : pat w ((pat w i : Nat) + j) = pat w (i + j) := by
  apply pat_congr; rw [pat_cast, Int.emod_add_emod]

theorem pat_sub_absorb_r (w : Nat) (i j : Int) : pat w (i - (pat w j : Nat)) = pat w (i - j) := by
  apply pat_congr; rw [pat_cast, Int.sub_emod, Int.emod_emod, ← Int.sub_emod]

theorem pat_add_M (w : Nat) (i : Int) : pat w (i + ((2 ^ w : Nat) : Int)) = pat w i :=
  pat_congr _ _ _ (Int.add_emod_right _ _)

theorem ripple_pat (t a b : Nat) : ripple t a b = pat t ((a : Int) + b) := by
  rw [ripple_eq, ← pat_natCast, Int.natCast_add]

theorem max_pow_le_l (a b : Nat) : 2 ^ a ≤ 2 ^ (max a b) := Nat.pow_le_pow_right (by decide) (Nat.le_max_left a b)

theorem pat_one (t : Nat) (ht : 1 ≤ t) : pat t 1 = 1 :=
  pat_of_lt t 1 (Nat.one_lt_two_pow (by omega))

/-- `~n + 1` is the two's complement -/
theorem pat_allOnes_sub (t n : Nat) (h : n < 2 ^ t) :
    pat t (((allOnes t - n : Nat) : Int) + 1) = pat t (-(n : Int)) := by
  have hc : ((allOnes t - n : Nat) : Int) + 1 = -(n : Int) + ((2 ^ t : Nat) : Int) := by
    unfold allOnes; omega
  rw [hc, pat_add_M]

theorem inRange_sgn_iff (w : Nat) (i : Int) :
    inRange .sgn w i = true ↔ -((2 ^ (w - 1) : Nat) : Int) ≤ i ∧ i < ((2 ^ (w - 1) : Nat) : Int) := by
  simp only [inRange, Bool.and_eq_true, decide_eq_true_eq]

/-- plain BitVector patterns are read like Unsigned ones -/
theorem inRange_uns_iff {k : Kind} (hk : k ≠ .sgn) (w : Nat) (i : Int) :
    inRange k w i = true ↔ 0 ≤ i ∧ i < ((2 ^ w : Nat) : Int) := by
  cases k
  case sgn => exact absurd rfl hk
  all_goals simp only [inRange, Bool.and_eq_true, decide_eq_true_eq]

theorem valOf_uns {k : Kind} (hk : k ≠ .sgn) (w n : Nat) : valOf k w n = n := by
  cases k
  case sgn => exact absurd rfl hk
  all_goals rfl

theorem inRange_toInt (w n : Nat) (hw : 1 ≤ w) (h : n < 2 ^ w) : inRange .sgn w (toInt w n) = true := by
  rw [inRange_sgn_iff]
  unfold toInt
  rw [two_pow_pred w hw] at h ⊢
  split <;> omega

theorem pat_toInt (w n : Nat) (hw : 1 ≤ w) (h : n < 2 ^ w) : pat w (toInt w n) = n := by
  unfold toInt
  split
  · exact pat_of_lt w n h
  · rw [← pat_add_M, Int.sub_add_cancel, pat_of_lt w n h]

theorem pat_toInt_absorb (t p : Nat) (x : Int) (ht : 1 ≤ t) (h : p < 2 ^ t) :
    pat t (x + toInt t p) = pat t (x + p) := by
  rw [← pat_absorb_r, pat_toInt t p ht h]

theorem toInt_pat (t : Nat) (i : Int) (ht : 1 ≤ t) (hr : inRange .sgn t i = true) : toInt t (pat t i) = i := by
  rw [inRange_sgn_iff] at hr
  have hc := pat_cast t i
  unfold toInt
  rw [two_pow_pred t ht] at hc ⊢
  by_cases h0 : 0 ≤ i
  · rw [Int.emod_eq_of_lt h0 (by omega)] at hc
    split <;> omega
  · rw [← Int.add_emod_right, Int.emod_eq_of_lt (by omega) (by omega)] at hc
    split <;> omega

theorem toInt_eq_zero (w n : Nat) (hw : 1 ≤ w) (h : n < 2 ^ w) : toInt w n = 0 ↔ n = 0 := by
  constructor
  · intro h0
    rw [← pat_toInt w n hw h, h0]
    rfl
  · rintro rfl
    exact if_pos (Nat.two_pow_pos _)

theorem inRange_valOf (k : Kind) (w n : Nat) (hw : 1 ≤ w) (h : n < 2 ^ w) : inRange k w (valOf k w n) = true := by
  by_cases hk : k = .sgn
  · subst hk; exact inRange_toInt w n hw h
  · rw [valOf_uns hk]; exact (inRange_uns_iff hk w n).mpr ⟨Int.natCast_nonneg n, Int.ofNat_lt.mpr h⟩

theorem valOf_eq_zero (k : Kind) (w n : Nat) (hw : 1 ≤ w) (h : n < 2 ^ w) : valOf k w n = 0 ↔ n = 0 := by
  by_cases hk : k = .sgn
  · subst hk; exact toInt_eq_zero w n hw h
  · rw [valOf_uns hk]; exact Int.natCast_eq_zero

theorem inRange_mono (k : Kind) (w t : Nat) (i : Int) (h : w ≤ t) (hr : inRange k w i = true) :
    inRange k t i = true := by
  by_cases hk : k = .sgn
  · subst hk
    rw [inRange_sgn_iff] at hr ⊢
    have : 2 ^ (w - 1) ≤ 2 ^ (t - 1) := Nat.pow_le_pow_right (by decide) (by omega)
    omega
  · rw [inRange_uns_iff hk] at hr ⊢
    have : 2 ^ w ≤ 2 ^ t := Nat.pow_le_pow_right (by decide) h
    omega

theorem inRange_mul (k : Kind) (wa wb : Nat) (x y : Int) (hwa : 1 ≤ wa) (hwb : 1 ≤ wb)
    (hx : inRange k wa x = true) (hy : inRange k wb y = true) : inRange k (wa + wb) (x * y) = true := by
  by_cases hk : k = .sgn
  · -- |x| ≤ P and |y| ≤ Q give |x * y| ≤ P * Q, half of the bound 2^(wa + wb - 1)
    subst hk
    rw [inRange_sgn_iff] at hx hy ⊢
    have hp : 2 ^ (wa + wb - 1) = 2 * (2 ^ (wa - 1) * 2 ^ (wb - 1)) := by
      rw [Nat.add_sub_assoc hwb, Nat.pow_add, two_pow_pred wa hwa, Nat.mul_assoc]
    have hm : (x * y).natAbs ≤ 2 ^ (wa - 1) * 2 ^ (wb - 1) := by
      rw [Int.natAbs_mul]; exact Nat.mul_le_mul (by omega) (by omega)
    have hpos := Nat.mul_pos (Nat.two_pow_pos (wa - 1)) (Nat.two_pow_pos (wb - 1))
    rw [hp]
    generalize x * y = z at hm ⊢
    generalize 2 ^ (wa - 1) * 2 ^ (wb - 1) = N at hm hpos ⊢
    omega
  · rw [inRange_uns_iff hk] at hx hy ⊢
    rw [Nat.pow_add, Int.natCast_mul]
    exact ⟨Int.mul_nonneg hx.1 hy.1, Int.mul_lt_mul' (Int.le_of_lt hx.2) hy.2 hy.1 (M_pos wa)⟩

/-- value * 2^z fits every width that holds w + z bits (resize with zeros=) -/
theorem inRange_mul_pow (k : Kind) (w z t : Nat) (i : Int) (hw : 1 ≤ w) (ht : w + z ≤ t)
    (hi : inRange k w i = true) : inRange k t (i * ((2 ^ z : Nat) : Int)) = true := by
  refine inRange_mono k (w + z) t _ ht ?_
  have hZ := M_pos z
  by_cases hk : k = .sgn
  · subst hk
    rw [inRange_sgn_iff] at hi ⊢
    rw [Nat.sub_add_comm hw, Nat.pow_add, Int.natCast_mul, ← Int.neg_mul]
    exact ⟨Int.mul_le_mul_of_nonneg_right hi.1 (Int.le_of_lt hZ), Int.mul_lt_mul_of_pos_right hi.2 hZ⟩
  · rw [inRange_uns_iff hk] at hi ⊢
    rw [Nat.pow_add, Int.natCast_mul]
    exact ⟨Int.mul_nonneg hi.1 (Int.le_of_lt hZ), Int.mul_lt_mul_of_pos_right hi.2 hZ⟩

/-- floor division by a positive number (`>>`) keeps the value representable -/
theorem inRange_fdiv_pos (k : Kind) (w : Nat) (i d : Int) (hi : inRange k w i = true) (hd : 0 < d) :
    inRange k w (i.fdiv d) = true := by
  rw [Int.fdiv_eq_ediv_of_nonneg _ (Int.le_of_lt hd)]
  by_cases hk : k = .sgn
  · subst hk
    rw [inRange_sgn_iff] at hi ⊢
    have hP := M_pos (w - 1)
    have h1 : -((2 ^ (w - 1) : Nat) : Int) * d ≤ -((2 ^ (w - 1) : Nat) : Int) * 1 :=
      Int.mul_le_mul_of_nonpos_left (by omega) (by omega)
    have h2 : ((2 ^ (w - 1) : Nat) : Int) * 1 ≤ ((2 ^ (w - 1) : Nat) : Int) * d :=
      Int.mul_le_mul_of_nonneg_left (by omega) (by omega)
    exact ⟨(Int.le_ediv_iff_mul_le hd).mpr (by omega), (Int.ediv_lt_iff_lt_mul hd).mpr (by omega)⟩
  · rw [inRange_uns_iff hk] at hi ⊢
    have := Int.ediv_le_self d hi.1
    exact ⟨Int.ediv_nonneg hi.1 (Int.le_of_lt hd), by omega⟩

/-- Python `%` (floor remainder) by a representable non-zero divisor is representable at the divisor's width -/
theorem inRange_fmod (k : Kind) (w : Nat) (a b : Int) (hb : inRange k w b = true) (hb0 : b ≠ 0) :
    inRange k w (a.fmod b) = true := by
  have h1 := Int.emod_nonneg a hb0
  have h2 := Int.emod_lt a hb0
  rw [Int.fmod_eq_emod]
  by_cases hk : k = .sgn
  · subst hk
    rw [inRange_sgn_iff] at hb ⊢
    split
    · omega
    · rename_i h
      have := fun hd => h (Or.inr (Int.dvd_of_emod_eq_zero hd))
      omega
  · rw [inRange_uns_iff hk] at hb ⊢
    rw [if_pos (Or.inl hb.1)]
    omega

theorem inRange_tmod (k : Kind) (wa w : Nat) (a b : Int) (ha : inRange k wa a = true) (hb : inRange k w b = true)
    (hb0 : b ≠ 0) : inRange k w (a.tmod b) = true := by
  have h1 := Int.natAbs_tmod a b
  have h2 : a.natAbs % b.natAbs < b.natAbs := Nat.mod_lt _ (by omega)
  by_cases hk : k = .sgn
  · subst hk
    rw [inRange_sgn_iff] at hb ⊢
    omega
  · rw [inRange_uns_iff hk] at ha hb ⊢
    have := Int.tmod_nonneg b ha.1
    omega

theorem truncDiv_eq (a b : Int) : truncDiv a b = a.tdiv b := by
  unfold truncDiv
  cases a <;> cases b <;> simp [Int.tdiv, Int.negSucc_lt_zero, Int.not_ofNat_neg]

theorem truncRem_eq (a b : Int) : truncRem a b = a.tmod b := by
  unfold truncRem
  cases a <;> cases b <;> simp [Int.tmod, Int.negSucc_lt_zero, Int.not_ofNat_neg]

theorem bitLength_le (n k : Nat) : bitLength n ≤ k ↔ n < 2 ^ k := by
  unfold bitLength
  split
  · subst_vars
    exact ⟨fun _ => Nat.two_pow_pos k, fun _ => Nat.zero_le k⟩
  · rename_i h
    rw [Nat.add_one_le_iff]
    exact Nat.log2_lt h

theorem isPow2_iff (n : Nat) : isPow2 n = true ↔ ∃ k, n = 2 ^ k := by
  unfold isPow2
  constructor
  · intro h
    simp only [Bool.and_eq_true, beq_iff_eq] at h
    exact ⟨Nat.log2 n, h.2.symm⟩
  · rintro ⟨k, rfl⟩
    simp [Nat.log2_two_pow]

/-- a negative power of two needs one bit less than its magnitude plus sign -/
theorem sFromIntWidth_le (w : Nat) (r : Int) (hw : 1 ≤ w) :
    sFromIntWidth r ≤ w ↔ inRange .sgn w r = true := by
  obtain ⟨k, rfl⟩ : ∃ k, w = k + 1 := ⟨w - 1, by omega⟩
  rw [inRange_sgn_iff, Nat.add_sub_cancel]
  have hk := Nat.two_pow_pos k
  unfold sFromIntWidth
  by_cases hp : (decide (r ≥ 0) || !isPow2 r.natAbs) = true
  · rw [if_pos hp, Nat.add_le_add_iff_right, bitLength_le]
    have hne : r < 0 → r.natAbs ≠ 2 ^ k := fun h he => by
      simp [Int.not_le.mpr h, (isPow2_iff _).mpr ⟨k, he⟩] at hp
    omega
  · rw [if_neg hp]
    simp only [Bool.or_eq_true, decide_eq_true_eq, Bool.not_eq_true', not_or, Bool.not_eq_false] at hp
    obtain ⟨j, hj⟩ := (isPow2_iff _).mp hp.2
    rw [hj, bitLength, if_neg (Nat.ne_of_gt (Nat.two_pow_pos j)), Nat.log2_two_pow, Nat.add_le_add_iff_right,
      ← Nat.pow_le_pow_iff_right (a := 2) (by decide)]
    omega

theorem uFromIntWidth_pat_le (w : Nat) (r : Int) (hw : 1 ≤ w) : uFromIntWidth (pat w r) ≤ w := by
  unfold uFromIntWidth
  rw [bitLength_le]
  split
  · exact Nat.one_lt_two_pow (by omega)
  · exact pat_lt w r

theorem mkU_ok (w : Nat) (i : Int) (h : inRange .uns w i = true) : mkU w i = .ok (wrap .uns w i) := by
  rw [inRange_uns_iff (by decide)] at h
  unfold mkU wrap
  rw [if_pos h]
  congr 2
  have hc := pat_cast w i
  rw [Int.emod_eq_of_lt h.1 h.2] at hc
  omega

/-- `Unsigned.__truncdiv__` floors (`//`), which on non-negative operands is the truncation of the specification -/
theorem mkU_fdiv (w : Nat) (a b : Int) (ha : inRange .uns w a = true) (hb : 0 ≤ b) :
    mkU w (a.fdiv b) = .ok (wrap .uns w (a.tdiv b)) := by
  rw [inRange_uns_iff (by decide)] at ha
  rw [Int.fdiv_eq_ediv_of_nonneg _ hb, Int.tdiv_eq_ediv_of_nonneg ha.1]
  have := Int.ediv_le_self b ha.1
  exact mkU_ok w _ ((inRange_uns_iff (by decide) w _).mpr ⟨Int.ediv_nonneg ha.1 hb, by omega⟩)

/-- the wrap-around of `<<` -/
theorem mkU_mod (w m : Nat) : mkU w ((m % 2 ^ w : Nat) : Int) = .ok (wrap .uns w (m : Int)) := by
  rw [mkU_ok w _ ((inRange_uns_iff (by decide) w _).mpr ⟨Int.natCast_nonneg _, Int.ofNat_lt.mpr (Nat.mod_lt _ (Nat.two_pow_pos w))⟩)]
  unfold wrap
  rw [pat_natCast, pat_natCast, Nat.mod_mod]

theorem mkS_ok (w : Nat) (i : Int) (h : inRange .sgn w i = true) : mkS w i = .ok (wrap .sgn w i) := by
  unfold mkS wrap
  rw [if_pos ((inRange_sgn_iff w i).mp h)]

def mkVec (k : Kind) : Nat → Int → Res :=
  match k with
  | .sgn => mkS
  | _ => mkU

theorem mkVec_ok {k : Kind} (hk : isNumeric k = true) (w : Nat) (i : Int) (h : inRange k w i = true) :
    mkVec k w i = .ok (wrap k w i) := by
  cases k
  case bv => cases hk
  case uns => exact mkU_ok w i h
  case sgn => exact mkS_ok w i h

theorem msb_bit (w n : Nat) (hw : 1 ≤ w) (hn : n < 2 ^ w) :
    (n / 2 ^ (w - 1) % 2 == 1) = decide (2 ^ (w - 1) ≤ n) := by
  have hP := Nat.two_pow_pos (w - 1)
  rw [two_pow_pred w hw] at hn
  by_cases h : 2 ^ (w - 1) ≤ n
  · rw [Nat.div_eq_of_lt_le (k := 1) (by omega) (by omega), decide_eq_true h]; rfl
  · rw [Nat.div_eq_of_lt (by omega), decide_eq_false h]; rfl

end CohdlVerif.C09
