import CohdlVerif.Lemmas.C18Fold
/-! C18: the helpers that only rearrange or select bits of a vector. -/
namespace CohdlVerif.C18

theorem lt_two_pow_bitLen (n : Nat) : n < 2 ^ bitLen n := by
  unfold bitLen
  split
  · subst_vars; exact Nat.one_pos
  · exact Nat.lt_log2_self

theorem bitLen_le_of_lt {n k : Nat} (h : n < 2 ^ k) : bitLen n ≤ k := by
  unfold bitLen
  split
  · exact Nat.zero_le k
  · rename_i hn
    exact (Nat.log2_lt hn).mpr h

theorem uptoW_pos (n : Nat) (hn : n ≠ 0) : uptoW n = bitLen n := by simp [uptoW, hn]

theorem getD_append (a b : List α) (i : Nat) (d : α) :
    (a ++ b).getD i d = if i < a.length then a.getD i d else b.getD (i - a.length) d := by
  simp only [List.getD_eq_getElem?_getD, List.getElem?_append]
  split <;> rfl

theorem getD_take (l : List α) (n i : Nat) (d : α) (h : i < n) : (l.take n).getD i d = l.getD i d := by
  simp only [List.getD_eq_getElem?_getD, List.getElem?_take, h, if_true]

theorem getD_drop (l : List α) (n i : Nat) (d : α) : (l.drop n).getD i d = l.getD (n + i) d := by
  simp only [List.getD_eq_getElem?_getD, List.getElem?_drop]

theorem cat_assoc (a b c : Bits) : cat (cat a b) c = cat a (cat b c) :=
  (List.append_assoc c b a).symm

theorem foldl_cat (rest : List Bits) : ∀ a : Bits, rest.foldl cat a = rest.reverse.flatten ++ a := by
  induction rest with
  | nil => intro a; rfl
  | cons b rest ih => intro a; simp [ih, cat, List.flatten_append, List.append_assoc]

theorem concatM_eq (parts : List Bits) (h : parts ≠ []) : concatM parts = some (concatSpec parts) := by
  unfold concatM
  rw [batchedFold_eq_foldl1 cat_assoc (by omega) h]
  cases parts with
  | nil => exact absurd rfl h
  | cons a rest => simp [foldl1, concatSpec, foldl_cat, List.flatten_append]

theorem reverseBits_eq (bits : Bits) (h : bits ≠ []) : reverseBits bits = some bits.reverse := by
  unfold reverseBits
  rw [concatM_eq _ (by simpa using h)]
  rw [concatSpec, ← List.map_reverse, ← List.flatMap_def, List.flatMap_singleton']

theorem repeatSpec_add (val : Bits) (a b : Nat) : repeatSpec val a ++ repeatSpec val b = repeatSpec val (a + b) := by
  simp only [repeatSpec]; rw [← List.flatten_append, List.replicate_append_replicate]

theorem digits_succ (t nr n : Nat) :
    t / 2 ^ nr % 2 ^ (n + 1) = t / 2 ^ nr % 2 + 2 * (t / 2 ^ (nr + 1) % 2 ^ n) := by
  rw [Nat.pow_succ 2 nr, ← Nat.div_div_eq_div_mul, Nat.pow_succ, Nat.mul_comm (2 ^ n) 2, Nat.mod_mul]

/-- the powers `val·c, val·2c, ..` selected by the digits of `t` from `nr` on add up to that many copies -/
theorem filter_pow2 (val : Bits) (t : Nat) : ∀ (n c nr : Nat),
    concatSpec (filterByFactor t nr (pow2List (repeatSpec val c) n)) = repeatSpec val (c * (t / 2 ^ nr % 2 ^ n)) := by
  intro n
  induction n with
  | zero => intro c nr; simp [pow2List, filterByFactor, concatSpec, repeatSpec, Nat.mod_one]
  | succ n ih =>
    intro c nr
    have hrec := ih (c + c) (nr + 1)
    simp only [pow2List, filterByFactor, cat, repeatSpec_add, digits_succ t nr n]
    rcases Nat.mod_two_eq_zero_or_one (t / 2 ^ nr) with h | h
    · rw [h, if_neg (by omega), hrec, Nat.zero_add, ← Nat.mul_assoc, Nat.mul_two]
    · rw [h, if_pos rfl]
      simp only [concatSpec, List.reverse_cons, List.flatten_append, List.flatten_cons, List.flatten_nil,
        List.append_nil] at hrec ⊢
      rw [hrec, repeatSpec_add, Nat.mul_add, Nat.mul_one, ← Nat.mul_assoc, Nat.mul_two, Nat.add_comm]

theorem filter_ne_nil (t : Nat) : ∀ (l : List Bits) (nr : Nat), t / 2 ^ nr % 2 ^ l.length ≠ 0 → filterByFactor t nr l ≠ [] := by
  intro l
  induction l with
  | nil => intro nr h; simp [Nat.mod_one] at h
  | cons s rest ih =>
    intro nr h
    simp only [filterByFactor]
    split
    · exact List.cons_ne_nil _ _
    · apply ih (nr + 1)
      rw [List.length_cons, digits_succ] at h
      omega

theorem pow2List_length (v : Bits) : ∀ n, (pow2List v n).length = n := by
  intro n
  induction n generalizing v with
  | zero => rfl
  | succ n ih => simp [pow2List, ih]

theorem repeatM_eq (val : Bits) (times : Nat) (ht : 1 ≤ times) : repeatM val times = some (repeatSpec val times) := by
  unfold repeatM
  have hlt : times < 2 ^ (max 1 (bitLen times)) :=
    Nat.lt_of_lt_of_le (lt_two_pow_bitLen times) (Nat.pow_le_pow_right (by omega) (Nat.le_max_right _ _))
  have hsum : times / 2 ^ 0 % 2 ^ (max 1 (bitLen times)) = times := by
    rw [Nat.pow_zero, Nat.div_one, Nat.mod_eq_of_lt hlt]
  have hv : val = repeatSpec val 1 := by simp [repeatSpec]
  rw [concatM_eq]
  · conv => lhs; rw [hv]
    rw [filter_pow2, hsum, Nat.one_mul]
  · apply filter_ne_nil
    rw [pow2List_length, hsum]
    omega

theorem stretchBit_eq (b : Bool) (f : Nat) (hf : 1 ≤ f) : stretchBit b f = some (List.replicate f b) := by
  unfold stretchBit
  rw [if_neg (by omega), repeatM_eq [b] f hf, repeatSpec, List.flatten_replicate_singleton]

theorem mapM_id_some (l : List α) : (l.map some).mapM id = some l := by
  induction l with
  | nil => rfl
  | cons a r ih => simp [List.mapM_cons, ih]

theorem stretchSpec_one (bits : Bits) : stretchSpec bits 1 = bits := by
  exact List.flatMap_singleton' bits

theorem stretchM_eq (bits : Bits) (f : Nat) (hf : 1 ≤ f) (hb : bits ≠ []) :
    stretchM bits f = some (stretchSpec bits f) := by
  unfold stretchM
  rw [if_neg (by omega)]
  by_cases h1 : f = 1
  · rw [if_pos h1, h1, stretchSpec_one]
  · have : (fun b => stretchBit b f) = some ∘ List.replicate f := funext fun b => stretchBit_eq b f hf
    rw [if_neg h1, this, ← List.map_map, mapM_id_some]
    simp only []
    rw [concatM_eq _ (by simpa using hb)]
    simp [concatSpec, stretchSpec, List.flatMap]

theorem leftpadM_eq (inp : Bits) (rw' : Nat) (fill : Bool) (h : inp.length ≤ rw') :
    leftpadM inp rw' fill = some (padSpec inp (rw' - inp.length) 0 fill) := by
  unfold leftpadM padSpec
  rw [if_neg (by omega)]
  by_cases he : inp.length = rw'
  · simp [he]
  · simp [he, stretchBit_eq fill (rw' - inp.length) (by omega), cat]

theorem rightpadM_eq (inp : Bits) (rw' : Nat) (fill : Bool) (h : inp.length ≤ rw') :
    rightpadM inp rw' fill = some (padSpec inp 0 (rw' - inp.length) fill) := by
  unfold rightpadM padSpec
  rw [if_neg (by omega)]
  by_cases he : inp.length = rw'
  · simp [he]
  · simp [he, stretchBit_eq fill (rw' - inp.length) (by omega), cat]

theorem padM_eq (inp : Bits) (l r : Nat) (fill : Bool) : padM inp l r fill = some (padSpec inp l r fill) := by
  unfold padM padSpec
  by_cases hl : l = 0 <;> by_cases hr : r = 0 <;> simp [hl, hr, stretchBit_eq, Nat.one_le_iff_ne_zero, cat]

/-- `ror` cuts the vector at `n` and swaps the two pieces; `n = 0` and `n = width` need no special case -/
theorem rorM_eq_swap (bits : Bits) (n : Nat) (hn : n ≤ bits.length) : rorM bits n = some (bits.drop n ++ bits.take n) := by
  unfold rorM
  rw [if_neg (by omega)]
  split
  · rename_i h0
    rcases h0 with rfl | rfl <;> simp
  · rfl

theorem rolM_eq_rorM (bits : Bits) (n : Nat) (hn : n ≤ bits.length) : rolM bits n = rorM bits (bits.length - n) := by
  have h3 : (bits.length - n = 0 ∨ bits.length - n = bits.length) ↔ (n = 0 ∨ n = bits.length) := by omega
  simp only [rolM, rorM, Nat.not_lt.mpr hn, Nat.not_lt.mpr (Nat.sub_le _ n), h3, if_false]

theorem rolSpec_eq_rorSpec (bits : Bits) (n : Nat) (hn : n ≤ bits.length) : rolSpec bits n = rorSpec bits (bits.length - n) := by
  unfold rolSpec rorSpec
  simp only [Nat.add_sub_assoc hn]

theorem swap_eq_rorSpec (bits : Bits) (n : Nat) (hn : n ≤ bits.length) : bits.drop n ++ bits.take n = rorSpec bits n := by
  have hlen : (bits.drop n ++ bits.take n).length = bits.length := by
    rw [List.length_append, List.length_drop, List.length_take_of_le hn, Nat.sub_add_cancel hn]
  apply List.ext_getElem
  · rw [hlen, rorSpec, List.length_map, List.length_range]
  · intro i h1 _
    rw [hlen] at h1
    rw [List.getElem_eq_getD false, getD_append, List.length_drop]
    simp only [rorSpec, List.getElem_map, List.getElem_range]
    split
    · rename_i hi
      rw [getD_drop, Nat.mod_eq_of_lt (Nat.add_lt_of_lt_sub hi), Nat.add_comm]
    · rename_i hi
      have e : i + n = i - (bits.length - n) + bits.length := by omega
      rw [getD_take _ _ _ _ (by omega), e, Nat.add_mod_right, Nat.mod_eq_of_lt (by omega)]

theorem rorM_eq (bits : Bits) (n : Nat) (hn : n ≤ bits.length) : rorM bits n = some (rorSpec bits n) := by
  rw [rorM_eq_swap bits n hn, swap_eq_rorSpec bits n hn]

theorem lshiftFill_eq (val fill : Bits) (h : fill.length ≤ val.length) :
    lshiftFill val fill = some (fill ++ val.take (val.length - fill.length)) := by
  unfold lshiftFill
  split
  · rename_i he
    simp [he]
  · rw [if_neg (by omega)]; rfl

theorem rshiftFill_eq (val fill : Bits) (h : fill.length ≤ val.length) :
    rshiftFill val fill = some (val.drop fill.length ++ fill) := by
  unfold rshiftFill
  split
  · rename_i he
    simp [he]
  · rw [if_neg (by omega)]; rfl

theorem ofNat_eq_testBit : ∀ (w n : Nat), ofNat w n = (List.range w).map n.testBit := by
  intro w
  induction w with
  | zero => intro n; rfl
  | succ w ih =>
    intro n
    rw [List.range_succ_eq_map, List.map_cons, List.map_map, ofNat, ih]
    refine List.cons_eq_cons.mpr ⟨by rw [Nat.testBit_zero, Bool.beq_eq_decide_eq], ?_⟩
    exact List.map_congr_left fun i _ => (Nat.testBit_add_one n i).symm

theorem oneHot_eq (w p : Nat) (hp : p < w) : oneHot w p = some (oneHotSpec w p) := by
  unfold oneHot oneHotSpec
  rw [if_pos hp, Nat.one_mul, Nat.mod_eq_of_lt (Nat.pow_lt_pow_right (by omega) hp), ofNat_eq_testBit]
  congr 1
  exact List.map_congr_left fun i _ => by rw [Nat.testBit_two_pow, Bool.beq_eq_decide_eq, decide_eq_decide]; exact eq_comm

theorem oneHotSpec_zero (w : Nat) : oneHotSpec (w + 1) 0 = true :: List.replicate w false := by
  rw [oneHotSpec, List.range_succ_eq_map, List.map_cons, List.map_map]
  refine List.cons_eq_cons.mpr ⟨rfl, ?_⟩
  rw [List.eq_replicate_iff]
  simp

theorem oneHotSpec_succ (w p : Nat) : oneHotSpec (w + 1) (p + 1) = false :: oneHotSpec w p := by
  rw [oneHotSpec, oneHotSpec, List.range_succ_eq_map, List.map_cons, List.map_map]
  refine List.cons_eq_cons.mpr ⟨rfl, ?_⟩
  exact List.map_congr_left fun i _ => by simp

theorem one_hot_iff (bits : Bits) :
    bits.count true = 1 ↔ ∃ p, p < bits.length ∧ bits = oneHotSpec bits.length p := by
  induction bits with
  | nil => simp
  | cons b r ih =>
    rw [List.length_cons]
    constructor
    · intro h
      cases b
      · obtain ⟨p, hp, he⟩ := ih.mp (by simpa [List.count_cons] using h)
        exact ⟨p + 1, by omega, by rw [oneHotSpec_succ, ← he]⟩
      · have hr : r.count true = 0 := by simpa [List.count_cons] using h
        refine ⟨0, by omega, ?_⟩
        rw [oneHotSpec_zero, List.cons_eq_cons, List.eq_replicate_iff]
        exact ⟨rfl, rfl, fun x hx => by cases x <;> simp_all [List.count_eq_zero]⟩
    · rintro ⟨p, hp, he⟩
      cases p with
      | zero =>
        rw [he, oneHotSpec_zero, List.count_cons_self, List.count_replicate]
        rfl
      | succ q =>
        rw [oneHotSpec_succ, List.cons_eq_cons] at he
        rw [he.1, List.count_cons_of_ne (by decide)]
        exact ih.mpr ⟨q, by omega, he.2⟩

theorem isOneHot_eq (bits : Bits) : isOneHot bits = isOneHotSpec bits := by
  unfold isOneHot isOneHotSpec
  rw [Bool.eq_iff_iff]
  simp only [List.any_eq_true, List.mem_range, beq_iff_eq]
  rw [one_hot_iff]
  constructor
  · rintro ⟨p, hp, he⟩
    rw [oneHot_eq _ _ hp, Option.some.injEq] at he
    exact ⟨p, hp, he.symm⟩
  · rintro ⟨p, hp, he⟩
    exact ⟨p, hp, by rw [oneHot_eq _ _ hp, ← he]⟩

/-- both sides stop at the shortest of the three vectors -/
theorem maskZip_eq (old new mask : Bits) :
    List.zipWith or (List.zipWith and old (mask.map not)) (List.zipWith and new mask) = applyMaskSpec old new mask := by
  induction old generalizing new mask with
  | nil => rfl
  | cons o os ih =>
    cases new with
    | nil => cases mask <;> rfl
    | cons n ns =>
      cases mask with
      | nil => rfl
      | cons m ms =>
        rw [applyMaskSpec, ← ih]
        cases m <;> simp

end CohdlVerif.C18
