import CohdlVerif.Lemmas.C09Lemmas

/-! C09 - what the Python methods compute, in terms of the values the operands denote: one lemma per operator for
    both numeric kinds, with the vector on the left or on the right. -/
namespace CohdlVerif.C09

/-- `b` as the other operand of a `k`-vector of width `w`, denoting `y` at width `w2`: a well-formed vector of
    the same kind with its own width, or an int, which the documented semantics converts to the vector's type
    and width -/
inductive Operand (k : Kind) (w : Nat) : Val → Nat → Int → Prop
  | vec {w2 n2 : Nat} (hw : 1 ≤ w2) (hn : n2 < 2 ^ w2) : Operand k w (.vec k w2 n2) w2 (valOf k w2 n2)
  | int (r : Int) : Operand k w (.int r) w r
  | integer (r : Int) : Operand k w (.integer r) w r

theorem Operand.of_intLike {k : Kind} {w : Nat} {b : Val} {r : Int} (hb : b = .int r ∨ b = .integer r) :
    Operand k w b w r := by
  rcases hb with rfl | rfl
  · exact .int r
  · exact .integer r

theorem Operand.one_le {k : Kind} {w w2 : Nat} {b : Val} {y : Int} (hb : Operand k w b w2 y) (hw : 1 ≤ w) :
    1 ≤ w2 := by
  cases hb <;> assumption

variable {k : Kind} {w n w2 : Nat} {a b : Val} {l y : Int}

theorem uNeg_eq (t n : Nat) (ht : 1 ≤ t) (h : n < 2 ^ t) : uNeg t n = .ok (wrap .uns t (-(n : Int))) := by
  dsimp only [uNeg, uAdd]
  rw [if_pos (uFromIntWidth_pat_le t 1 ht), ripple_pat, pat_absorb_r, pat_allOnes_sub t n h]
  rfl

theorem uAdd_operand (hw : 1 ≤ w) (hb : Operand .uns w b w2 y) :
    uAdd w n b = .ok (wrap .uns (max w w2) ((n : Int) + y)) := by
  cases hb
  case vec =>
    dsimp only [uAdd, wrap, valOf]
    rw [ripple_pat]
  all_goals
    dsimp only [uAdd]
    rw [if_pos (uFromIntWidth_pat_le w _ hw), ripple_pat, pat_absorb_r, Nat.max_self]
    rfl

theorem uSub_operand (hw : 1 ≤ w) (hb : Operand .uns w b w2 y) :
    uSub w n b = .ok (wrap .uns (max w w2) ((n : Int) - y)) := by
  cases hb
  case vec hw2 hn2 =>
    -- the subtrahend is negated at the result width, where it is still in range
    have ht : 1 ≤ max w w2 := Nat.le_trans hw (Nat.le_max_left w w2)
    dsimp only [uSub]
    rw [uNeg_eq _ _ ht (Nat.lt_of_lt_of_le hn2 (Nat.pow_le_pow_right (by decide) (Nat.le_max_right w w2)))]
    dsimp only [wrap]
    rw [uAdd_operand hw (.vec ht (pat_lt _ _)), Nat.max_eq_right (Nat.le_max_left w w2)]
    dsimp only [wrap, valOf]
    rw [pat_absorb_r, Int.sub_eq_add_neg]
  all_goals
    dsimp only [uSub]
    rw [uAdd_operand hw (.int _), Nat.max_self, ← Int.sub_eq_add_neg]
    dsimp only [wrap]
    rw [pat_sub_absorb_r]

theorem sAdd_operand (hw : 1 ≤ w) (hb : Operand .sgn w b w2 y) (hy : inRange .sgn w2 y = true) :
    sAdd w n b = .ok (wrap .sgn (max w w2) (toInt w n + y)) := by
  cases hb
  case vec =>
    dsimp only [sAdd, wrap, valOf]
    rw [ripple_pat, pat_absorb_r, pat_absorb_l]
  all_goals
    dsimp only [sAdd, wrap]
    rw [if_pos ((sFromIntWidth_le w _ hw).mpr hy), ripple_pat, pat_absorb_r, pat_absorb_l, Nat.max_self]

theorem sNeg_eq (t n : Nat) (ht : 1 ≤ t) (h : n < 2 ^ t) : sNeg t n = .ok (wrap .sgn t (-(toInt t n))) := by
  unfold sNeg
  by_cases h1 : t = 1
  · -- one bit: -1 and 0 are their own negatives modulo 2
    subst h1
    have : n = 0 ∨ n = 1 := by omega
    rcases this with rfl | rfl <;> decide
  · have hr : inRange .sgn t 1 = true := by
      rw [inRange_sgn_iff]
      have := Nat.one_lt_two_pow (n := t - 1) (by omega)
      omega
    have hlt : allOnes t - n < 2 ^ t := by unfold allOnes; omega
    rw [if_neg h1, sAdd_operand ht (.int 1) hr, Nat.max_self]
    dsimp only [wrap]
    rw [Int.add_comm, pat_toInt_absorb t _ 1 ht hlt, Int.add_comm, pat_allOnes_sub t n h,
      ← Int.zero_sub (toInt t n), ← pat_sub_absorb_r, pat_toInt t n ht h, Int.zero_sub]

theorem sSub_operand (hw : 1 ≤ w) (hb : Operand .sgn w b w2 y) :
    sSub w n b = .ok (wrap .sgn (max w w2) (toInt w n - y)) := by
  cases hb
  case vec hw2 hn2 =>
    -- the subtrahend is sign-extended to the result width, where it is still in range, and negated there
    have ht : 1 ≤ max w w2 := Nat.le_trans hw (Nat.le_max_left w w2)
    have hr := inRange_mono .sgn w2 (max w w2) _ (Nat.le_max_right w w2) (inRange_toInt w2 _ hw2 hn2)
    dsimp only [sSub]
    rw [sNeg_eq _ _ ht (pat_lt _ _), toInt_pat _ _ ht hr]
    dsimp only [wrap, sAdd, valOf]
    rw [Nat.max_eq_right (Nat.le_max_left w w2), ripple_pat, pat_absorb_l, pat_absorb_r,
      pat_toInt_absorb _ _ _ ht (pat_lt _ _), pat_absorb_r, Int.sub_eq_add_neg]
  all_goals
    dsimp only [sSub, sAdd, wrap]
    rw [ripple_pat, pat_absorb_r, pat_absorb_l, Int.sub_eq_add_neg, Nat.max_self]

theorem uTruncdiv_operand (hb : Operand .uns w b w2 y) :
    uTruncdiv w n b = if y = 0 then .ok (.undef .uns w) else mkU w ((n : Int).fdiv y) := by
  cases hb
  case vec =>
    dsimp only [uTruncdiv, valOf]
    simp only [Int.natCast_eq_zero]
  all_goals rfl

theorem sTruncdiv_operand (hb : Operand .sgn w b w2 y) :
    sTruncdiv w n b = if y = 0 then .ok (.undef .sgn w) else .ok (wrap .sgn w (truncDiv (toInt w n) y)) := by
  cases hb
  case vec hw2 hn2 =>
    dsimp only [sTruncdiv, valOf, wrap]
    simp only [toInt_eq_zero w2 _ hw2 hn2]
  all_goals rfl

theorem cmpInt_swap (op : BinOp) (a b : Int) : cmpInt (swapCmp op) a b = cmpInt op b a := by
  cases op
  case eq => exact Bool.beq_comm
  case ne => exact bne_comm
  all_goals rfl

/-- the integer a comparison method of a `k`-vector compares with; Null / Full are all-zeros / all-ones of its type -/
def cmpOperand (k : Kind) (w : Nat) (b : Val) : Option Int :=
  match k with
  | .sgn => sCmpOperand w b
  | _ => uCmpOperand w b

theorem Operand.cmpOperand (hk : isNumeric k = true) (hb : Operand k w b w2 y) : cmpOperand k w b = some y := by
  cases k
  case bv => cases hk
  all_goals cases hb <;> rfl

theorem cmpOperand_full (k : Kind) (w : Nat) : cmpOperand k w .full = some (valOf k w (allOnes w)) := by
  cases k <;> rfl

theorem pyBin_cmp {op : BinOp} (hk : isNumeric k = true) (hop : isCmp op = true) (hb : cmpOperand k w b = some y) :
    pyBin op (.vec k w n) b = .ok (.bool (cmpInt op (valOf k w n) y)) := by
  cases op
  case eq | ne | lt | gt | le | ge =>
    cases k
    case bv => cases hk
    all_goals
      dsimp only [pyBin, lhsMethod, uCmp, sCmp, cmpOperand] at hb ⊢
      rw [hb]
      rfl
  all_goals cases hop

/-- a comparison the left operand does not implement is answered by the mirrored method of the vector on the right -/
theorem pyBin_cmp_rhs {op : BinOp} (hk : isNumeric k = true) (hop : isCmp op = true)
    (h1 : lhsMethod op a (.vec k w n) = .notImpl) (ha : cmpOperand k w a = some l) :
    pyBin op a (.vec k w n) = .ok (.bool (cmpInt op l (valOf k w n))) := by
  rw [← cmpInt_swap]
  cases op
  case eq | ne | lt | gt | le | ge =>
    dsimp only [pyBin]
    rw [h1]
    cases k
    case bv => cases hk
    all_goals
      dsimp only [rhsMethod, uCmp, sCmp, cmpOperand] at ha ⊢
      rw [ha]
      rfl
  all_goals cases hop

theorem lhsMethod_intLike_vec (op : BinOp) (ha : a = .int l ∨ a = .integer l) :
    lhsMethod op a (.vec k w n) = .notImpl := by
  rcases ha with rfl | rfl
  · rfl
  · cases op <;> rfl

/-- Unsigned reduces an int operand modulo 2^w first; only `Signed.add` asserts its range -/
theorem pyBin_add (hk : isNumeric k = true) (hw : 1 ≤ w) (hb : Operand k w b w2 y)
    (hy : k = .sgn → inRange k w2 y = true) :
    pyBin .add (.vec k w n) b = .ok (wrap k (max w w2) (valOf k w n + y)) := by
  cases k
  case bv => cases hk
  case uns =>
    dsimp only [pyBin, lhsMethod, valOf]
    rw [uAdd_operand hw hb]
  case sgn =>
    have hm := sAdd_operand (n := n) hw hb (hy rfl)
    cases hb
    all_goals
      dsimp only [pyBin, lhsMethod, valOf] at hm ⊢
      rw [hm]

theorem pyBin_sub (hk : isNumeric k = true) (hw : 1 ≤ w) (hb : Operand k w b w2 y) :
    pyBin .sub (.vec k w n) b = .ok (wrap k (max w w2) (valOf k w n - y)) := by
  cases k
  case bv => cases hk
  case uns =>
    dsimp only [pyBin, lhsMethod, valOf]
    rw [uSub_operand hw hb]
  case sgn =>
    have hm := sSub_operand (n := n) hw hb
    cases hb
    all_goals
      dsimp only [pyBin, lhsMethod, valOf] at hm ⊢
      rw [hm]

theorem pyBin_mul (hk : isNumeric k = true) (hw : 1 ≤ w) (hn : n < 2 ^ w) (hb : Operand k w b w2 y)
    (hy : inRange k w2 y = true) : pyBin .mul (.vec k w n) b = .ok (wrap k (w + w2) (valOf k w n * y)) := by
  have hm := mkVec_ok hk _ _ (inRange_mul k w w2 _ _ hw (hb.one_le hw) (inRange_valOf k w n hw hn) hy)
  cases k
  case bv => cases hk
  all_goals
    cases hb
    all_goals
      dsimp only [pyBin, lhsMethod, uMul, sMul, valOf, mkVec] at hm ⊢
      simp only [Nat.two_mul, hm]

theorem pyBin_tdiv (hk : isNumeric k = true) (hw : 1 ≤ w) (hn : n < 2 ^ w) (hb : Operand k w b w2 y)
    (hy : inRange k w2 y = true) (h0 : y ≠ 0) :
    pyBin .tdiv (.vec k w n) b = .ok (wrap k w ((valOf k w n).tdiv y)) := by
  cases k
  case bv => cases hk
  case uns =>
    dsimp only [pyBin, opTruncdiv, valOf]
    rw [uTruncdiv_operand hb, if_neg h0,
      mkU_fdiv w n y (inRange_valOf .uns w n hw hn) ((inRange_uns_iff (by decide) w2 y).mp hy).1]
    rfl
  case sgn =>
    dsimp only [pyBin, opTruncdiv, valOf]
    rw [sTruncdiv_operand hb, if_neg h0, truncDiv_eq]
    rfl

theorem pyBin_mod (hk : isNumeric k = true) (hb : Operand k w b w2 y) (hy : inRange k w2 y = true) (h0 : y ≠ 0) :
    pyBin .mod (.vec k w n) b = .ok (wrap k w2 ((valOf k w n).fmod y)) := by
  have hm := mkVec_ok hk _ _ (inRange_fmod k w2 (valOf k w n) y hy h0)
  cases k
  case bv => cases hk
  all_goals
    cases hb
    case vec hw2 hn2 =>
      dsimp only [pyBin, lhsMethod, uMod, sMod, valOf, mkVec] at hm ⊢
      rw [if_neg (mt (valOf_eq_zero _ w2 _ hw2 hn2).mpr h0), hm]
    all_goals
      dsimp only [pyBin, lhsMethod, uMod, sMod, valOf, mkVec] at hm ⊢
      rw [if_neg h0, hm]

theorem pyBin_rem (hk : isNumeric k = true) (hw : 1 ≤ w) (hn : n < 2 ^ w) (hb : Operand k w b w2 y)
    (hy : inRange k w2 y = true) (h0 : y ≠ 0) :
    pyBin .rem (.vec k w n) b = .ok (wrap k w2 ((valOf k w n).tmod y)) := by
  have hm := mkVec_ok hk _ _ (inRange_tmod k w w2 _ y (inRange_valOf k w n hw hn) hy h0)
  rw [← truncRem_eq] at hm ⊢
  cases k
  case bv => cases hk
  all_goals
    cases hb
    case vec hw2 hn2 =>
      dsimp only [pyBin, opRem, uRem, sRem, valOf, mkVec] at hm ⊢
      rw [if_neg (mt (valOf_eq_zero _ w2 _ hw2 hn2).mpr h0), hm]
      rfl
    all_goals
      dsimp only [pyBin, opRem, uRem, sRem, valOf, mkVec] at hm ⊢
      rw [if_neg h0, hm]
      rfl

/-- `int + vec` is `vec.__radd__(int)`, which is `vec.__add__(int)` -/
theorem pyBin_add_comm (ha : a = .int l ∨ a = .integer l) :
    pyBin .add a (.vec k w n) = pyBin .add (.vec k w n) a := by
  rcases ha with rfl | rfl <;> cases k <;> rfl

theorem pyBin_radd (hk : isNumeric k = true) (hw : 1 ≤ w) (ha : a = .int l ∨ a = .integer l)
    (hl : k = .sgn → inRange k w l = true) : pyBin .add a (.vec k w n) = .ok (wrap k (max w w) (l + valOf k w n)) := by
  rw [pyBin_add_comm ha, pyBin_add hk hw (.of_intLike ha) hl, Int.add_comm]

theorem pyBin_rsub (hk : isNumeric k = true) (hw : 1 ≤ w) (hn : n < 2 ^ w) (ha : a = .int l ∨ a = .integer l)
    (hl : k = .sgn → inRange k w l = true) : pyBin .sub a (.vec k w n) = .ok (wrap k (max w w) (l - valOf k w n)) := by
  rw [Nat.max_self]
  cases k
  case bv => cases hk
  case uns =>
    have hm := fun n' => uAdd_operand (n := n') hw (.of_intLike ha)
    rcases ha with rfl | rfl
    all_goals
      dsimp only [pyBin, lhsMethod, iArith, isIntLike, rhsMethod, valOf]
      rw [uNeg_eq w n hw hn]
      dsimp only [wrap]
      rw [hm, Nat.max_self]
      dsimp only [wrap]
      rw [pat_absorb_l, Int.add_comm, ← Int.sub_eq_add_neg]
  case sgn =>
    have hm := fun n' => sAdd_operand (n := n') hw (.of_intLike ha) (hl rfl)
    rcases ha with rfl | rfl
    all_goals
      dsimp only [pyBin, lhsMethod, iArith, isIntLike, rhsMethod, valOf]
      rw [sNeg_eq w n hw hn]
      dsimp only [wrap]
      rw [hm, Nat.max_self]
      dsimp only [wrap]
      rw [Int.add_comm, pat_toInt_absorb w _ l hw (pat_lt _ _), pat_absorb_r, Int.sub_eq_add_neg]

theorem pyBin_rmul (hk : isNumeric k = true) (hw : 1 ≤ w) (hn : n < 2 ^ w) (ha : a = .int l ∨ a = .integer l)
    (hl : inRange k w l = true) : pyBin .mul a (.vec k w n) = .ok (wrap k (w + w) (l * valOf k w n)) := by
  have hm := mkVec_ok hk _ _ (inRange_mul k w w _ _ hw hw hl (inRange_valOf k w n hw hn))
  cases k
  case bv => cases hk
  all_goals
    rcases ha with rfl | rfl
    all_goals
      dsimp only [pyBin, lhsMethod, iArith, isIntLike, rhsMethod, uRmul, sRmul, valOf, mkVec] at hm ⊢
      rw [Nat.two_mul, hm]

theorem pyBin_rtdiv (hk : isNumeric k = true) (hw : 1 ≤ w) (hn : n < 2 ^ w) (ha : a = .int l ∨ a = .integer l)
    (hl : inRange k w l = true) (h0 : valOf k w n ≠ 0) :
    pyBin .tdiv a (.vec k w n) = .ok (wrap k w (l.tdiv (valOf k w n))) := by
  have hn0 : n ≠ 0 := mt (valOf_eq_zero k w n hw hn).mpr h0
  cases k
  case bv => cases hk
  case uns =>
    rcases ha with rfl | rfl
    all_goals
      dsimp only [pyBin, opTruncdiv, isIntLike, uRtruncdiv, valOf]
      rw [if_neg hn0, mkU_fdiv w l n hl (Int.natCast_nonneg n)]
      rfl
  case sgn =>
    rcases ha with rfl | rfl
    all_goals
      dsimp only [pyBin, opTruncdiv, isIntLike, sRtruncdiv, valOf]
      rw [if_neg hn0, truncDiv_eq]
      rfl

theorem pyBin_rmod (hk : isNumeric k = true) (hw : 1 ≤ w) (hn : n < 2 ^ w) (ha : a = .int l ∨ a = .integer l)
    (h0 : valOf k w n ≠ 0) : pyBin .mod a (.vec k w n) = .ok (wrap k w (l.fmod (valOf k w n))) := by
  have hn0 : n ≠ 0 := mt (valOf_eq_zero k w n hw hn).mpr h0
  have hm := mkVec_ok hk _ _ (inRange_fmod k w l _ (inRange_valOf k w n hw hn) h0)
  cases k
  case bv => cases hk
  all_goals
    rcases ha with rfl | rfl
    all_goals
      dsimp only [pyBin, lhsMethod, iArith, isIntLike, rhsMethod, uRmod, sRmod, valOf, mkVec] at hm ⊢
      rw [if_neg hn0, hm]

theorem pyBin_rrem (hk : isNumeric k = true) (hw : 1 ≤ w) (hn : n < 2 ^ w) (ha : a = .int l ∨ a = .integer l)
    (hl : inRange k w l = true) (h0 : valOf k w n ≠ 0) :
    pyBin .rem a (.vec k w n) = .ok (wrap k w (l.tmod (valOf k w n))) := by
  have hn0 : n ≠ 0 := mt (valOf_eq_zero k w n hw hn).mpr h0
  have hm := mkVec_ok hk _ _ (inRange_tmod k w w l _ hl (inRange_valOf k w n hw hn) h0)
  rw [← truncRem_eq] at hm ⊢
  cases k
  case bv => cases hk
  all_goals
    rcases ha with rfl | rfl
    all_goals
      dsimp only [pyBin, opRem, isIntLike, uRrem, sRrem, valOf, mkVec] at hm ⊢
      rw [if_neg hn0, hm]
      rfl

theorem pyBin_rcmp {op : BinOp} (hk : isNumeric k = true) (hop : isCmp op = true) (ha : a = .int l ∨ a = .integer l) :
    pyBin op a (.vec k w n) = .ok (.bool (cmpInt op l (valOf k w n))) :=
  pyBin_cmp_rhs hk hop (lhsMethod_intLike_vec op ha) ((Operand.of_intLike ha).cmpOperand hk)

/-- the operators whose documented result is `specArith` of the operands' values -/
def isArith : BinOp → Bool
  | .add | .sub | .mul | .tdiv | .mod | .rem => true
  | op => isCmp op

theorem specBin_operand {op : BinOp} (hk : isNumeric k = true) (hop : isArith op = true) (hb : Operand k w b w2 y) :
    specBin op (.vec k w n) b =
      if inRange k w2 y = true then specArith k op w (valOf k w n) w2 y else none := by
  cases hb
  case vec hw2 hn2 =>
    rw [if_pos (inRange_valOf k w2 _ hw2 hn2)]
    cases op
    case shl | shr | and | or | xor | cat | fdiv => cases hop
    all_goals
      dsimp only [specBin]
      rw [if_pos rfl, if_pos hk]
  all_goals
    cases op
    case shl | shr | and | or | xor | cat | fdiv => cases hop
    all_goals
      dsimp only [specBin]
      rw [hk, Bool.true_and]

theorem specBin_intLike_vec (op : BinOp) (hk : isNumeric k = true) (ha : a = .int l ∨ a = .integer l) :
    specBin op a (.vec k w n) =
      if inRange k w l = true then specArith k op w l w (valOf k w n) else none := by
  rcases ha with rfl | rfl
  all_goals
    cases op
    case shl | shr | and | or | xor | cat | fdiv => exact (ite_self none).symm
    all_goals
      dsimp only [specBin]
      rw [hk, Bool.true_and]

theorem arith_fold {op : BinOp} {v : Val} (hk : isNumeric k = true) (hw : 1 ≤ w) (hn : n < 2 ^ w)
    (hb : Operand k w b w2 y) (hy : inRange k w2 y = true)
    (hs : specArith k op w (valOf k w n) w2 y = some v) : pyBin op (.vec k w n) b = .ok v := by
  cases op
  case add => exact Option.some.inj hs ▸ pyBin_add hk hw hb fun _ => hy
  case sub => exact Option.some.inj hs ▸ pyBin_sub hk hw hb
  case mul => exact Option.some.inj hs ▸ pyBin_mul hk hw hn hb hy
  case tdiv =>
    obtain ⟨h0, rfl⟩ := of_ite_none hs
    exact pyBin_tdiv hk hw hn hb hy h0
  case mod =>
    obtain ⟨h0, rfl⟩ := of_ite_none hs
    exact pyBin_mod hk hb hy h0
  case rem =>
    obtain ⟨h0, rfl⟩ := of_ite_none hs
    exact pyBin_rem hk hw hn hb hy h0
  case eq | ne | lt | gt | le | ge => exact Option.some.inj hs ▸ pyBin_cmp hk rfl (hb.cmpOperand hk)
  all_goals cases hs

theorem arith_rfold {op : BinOp} {v : Val} (hk : isNumeric k = true) (hw : 1 ≤ w) (hn : n < 2 ^ w)
    (ha : a = .int l ∨ a = .integer l) (hl : inRange k w l = true)
    (hs : specArith k op w l w (valOf k w n) = some v) : pyBin op a (.vec k w n) = .ok v := by
  cases op
  case add => exact Option.some.inj hs ▸ pyBin_radd hk hw ha fun _ => hl
  case sub => exact Option.some.inj hs ▸ pyBin_rsub hk hw hn ha fun _ => hl
  case mul => exact Option.some.inj hs ▸ pyBin_rmul hk hw hn ha hl
  case tdiv =>
    obtain ⟨h0, rfl⟩ := of_ite_none hs
    exact pyBin_rtdiv hk hw hn ha hl h0
  case mod =>
    obtain ⟨h0, rfl⟩ := of_ite_none hs
    exact pyBin_rmod hk hw hn ha h0
  case rem =>
    obtain ⟨h0, rfl⟩ := of_ite_none hs
    exact pyBin_rrem hk hw hn ha hl h0
  case eq | ne | lt | gt | le | ge => exact Option.some.inj hs ▸ pyBin_rcmp hk rfl ha
  all_goals cases hs

theorem int_vec_fold {op : BinOp} {v : Val} (hk : isNumeric k = true) (hw : 1 ≤ w) (hn : n < 2 ^ w)
    (ha : a = .int l ∨ a = .integer l) (hs : specBin op a (.vec k w n) = some v) :
    pyBin op a (.vec k w n) = .ok v := by
  rw [specBin_intLike_vec op hk ha] at hs
  split at hs
  · exact arith_rfold hk hw hn ha ‹_› hs
  · cases hs

end CohdlVerif.C09
