import CohdlVerif.Lemmas.C18Bits
/-!
  C18: `batched` cuts a vector into the same consecutive chunks as `_batch_args` does a list, and
  `select_batch` is the OR over the selected chunks.
-/
namespace CohdlVerif.C18

theorem slice_eq (bits : Bits) (off n : Nat) (hn : 1 ≤ n) (hoff : off < bits.length) :
    slice bits off (min (off + n - 1) (bits.length - 1)) = (bits.drop off).take n := by
  unfold slice
  by_cases h : off + n ≤ bits.length
  · rw [Nat.min_eq_left (Nat.sub_le_sub_right h 1), Nat.sub_add_cancel (by omega), Nat.add_sub_cancel_left]
  · -- the last, shorter chunk: both sides take everything that is left
    have hl : (bits.drop off).length = bits.length - off := List.length_drop
    rw [Nat.min_eq_right (Nat.sub_le_sub_right (Nat.le_of_not_le h) 1), Nat.sub_add_cancel (by omega),
      List.take_of_length_le (Nat.le_of_eq hl), List.take_of_length_le (by omega)]

theorem batchedIdx_chunks (bits : Bits) (n : Nat) (hn : 1 ≤ n) :
    ∀ (fuel off : Nat), bits.length - off ≤ fuel →
      (batchedIdx bits.length n fuel off).map (fun p => slice bits p.2 p.1) = batchArgs n (bits.drop off) := by
  intro fuel
  induction fuel with
  | zero =>
    intro off hf
    rw [List.drop_eq_nil_of_le (by omega)]
    rfl
  | succ fuel ih =>
    intro off hf
    rw [batchedIdx]
    split
    · rename_i hlt
      have hne : bits.drop off ≠ [] := by
        rw [← List.length_pos_iff, List.length_drop]
        omega
      rw [List.map_cons, slice_eq bits off n hn hlt, ih (off + n) (by omega), batchArgs_cons hn hne, List.drop_drop]
    · rw [List.drop_eq_nil_of_le (by omega)]
      rfl

theorem chunks_eq (n : Nat) (bits : Bits) : chunks n bits = batchArgs n bits := rfl

theorem batched_eq_chunks (bits : Bits) (n : Nat) (allow : Bool) (hn : 1 ≤ n)
    (hok : allow = true ∨ bits.length % n = 0) : batched bits n allow = some (chunks n bits) := by
  have hg : ¬ (bits.length % n ≠ 0 ∧ ¬ allow = true) := by
    rcases hok with h | h <;> simp [h]
  rw [batched, if_neg (by omega), if_neg hg, batchedIdx_chunks bits n hn bits.length 0 (Nat.le_refl _)]
  rfl

theorem chunks_eq_map {bs : Nat} (hbs : 1 ≤ bs) : ∀ (k : Nat) (l : List α), l.length = k * bs →
    batchArgs bs l = (List.range k).map fun j => (l.drop (j * bs)).take bs := by
  intro k
  induction k with
  | zero =>
    intro l h
    have hl : l = [] := List.eq_nil_of_length_eq_zero (by simpa using h)
    subst hl
    rfl
  | succ k ih =>
    intro l h
    rw [Nat.succ_mul] at h
    have hne : l ≠ [] := by
      rw [← List.length_pos_iff]
      omega
    rw [batchArgs_cons hbs hne, ih (l.drop bs) (by rw [List.length_drop]; omega), List.range_succ_eq_map, List.map_cons,
      List.map_map, Nat.zero_mul, List.drop_zero]
    simp only [Function.comp_def, List.drop_drop, Nat.succ_mul, Nat.add_comm]

theorem chunks_len {bs : Nat} (hbs : 1 ≤ bs) (k : Nat) (l : Bits) (h : l.length = k * bs) : ∀ c ∈ batchArgs bs l, c.length = bs := by
  intro c hc
  rw [chunks_eq_map hbs k l h, List.mem_map] at hc
  obtain ⟨j, hj, rfl⟩ := hc
  have := Nat.mul_le_mul_right bs (Nat.succ_le_of_lt (List.mem_range.mp hj))
  rw [Nat.succ_mul] at this
  rw [List.length_take, List.length_drop, h]
  omega

theorem stretchSpec_length (sel : Bits) (bs : Nat) : (stretchSpec sel bs).length = sel.length * bs := by
  rw [stretchSpec, List.length_flatMap]
  simp only [List.length_replicate, List.map_const', List.sum_replicate_nat]

theorem stretch_getD {bs i : Nat} (hi : i < bs) : ∀ (sel : Bits) (j : Nat),
    (stretchSpec sel bs).getD (j * bs + i) false = sel.getD j false := by
  intro sel
  induction sel with
  | nil => intro j; rfl
  | cons s rest ih =>
    intro j
    rw [stretchSpec, List.flatMap_cons, getD_append, List.length_replicate]
    cases j with
    | zero =>
      rw [Nat.zero_mul, Nat.zero_add, if_pos hi, List.getD_eq_getElem?_getD, List.getElem?_replicate, if_pos hi]
      rfl
    | succ j =>
      rw [Nat.succ_mul, if_neg (by omega), show j * bs + bs + i - bs = j * bs + i by omega]
      exact ih j

theorem borT_tree (bs : Nat) {l : List Bits} {r : Bits} (h : FoldTree borT l r) :
    (∀ c ∈ l, c.length = bs) → r.length = bs ∧ ∀ i, i < bs → r.getD i false = l.any (fun c => c.getD i false) := by
  induction h with
  | leaf a => intro hl; exact ⟨hl a (by simp), fun i _ => by simp⟩
  | @node l₁ l₂ r₁ r₂ _ _ ih₁ ih₂ =>
    intro hl
    obtain ⟨n1, e1⟩ := ih₁ (fun c hc => hl c (by simp [hc]))
    obtain ⟨n2, e2⟩ := ih₂ (fun c hc => hl c (by simp [hc]))
    refine ⟨by simp [borT, n1, n2], ?_⟩
    intro i hi
    rw [List.any_append, ← e1 i hi, ← e2 i hi]
    simp only [borT, List.getD_eq_getElem?_getD, List.getElem?_zipWith]
    have h1 : i < r₁.length := by omega
    have h2 : i < r₂.length := by omega
    simp [List.getElem?_eq_getElem h1, List.getElem?_eq_getElem h2]

theorem zipWith_and_getD (a b : Bits) (n : Nat) :
    (List.zipWith and a b).getD n false = (a.getD n false && b.getD n false) := by
  simp only [List.getD_eq_getElem?_getD, List.getElem?_zipWith]
  cases a[n]? <;> cases b[n]? <;> simp

theorem selectBatch_eq (input sel : Bits) (bs : Nat) (hbs : 1 ≤ bs) (hs : sel ≠ []) (hlen : input.length = sel.length * bs) :
    selectBatch input sel bs = some (selectBatchSpec input sel bs) := by
  have hstl := stretchSpec_length sel bs
  have hml : (List.zipWith and input (stretchSpec sel bs)).length = sel.length * bs := by
    rw [List.length_zipWith, hlen, hstl, Nat.min_self]
  have hcne : batchArgs bs (List.zipWith and input (stretchSpec sel bs)) ≠ [] := by
    apply batchArgs_ne_nil hbs
    rw [← List.length_pos_iff, hml]
    exact Nat.mul_pos (List.length_pos_iff.mpr hs) hbs
  obtain ⟨r, hr, ht⟩ := batchedFold_tree borT 2 _ (by omega) hcne
  obtain ⟨hrl, hre⟩ := borT_tree bs ht (chunks_len hbs sel.length _ hml)
  unfold selectBatch
  rw [if_neg (by simp [hlen]), stretchM_eq sel bs hbs hs]
  simp only [Option.bind_eq_bind, Option.bind_some, band, hlen, hstl, if_true]
  rw [batched_eq_chunks _ bs false hbs (Or.inr (by rw [hml]; exact Nat.mul_mod_left _ _)), chunks_eq]
  simp only [Option.bind_some]
  rw [hr]
  congr 1
  apply List.ext_getElem
  · simp [selectBatchSpec, hrl]
  · intro i h1 h2
    have hi : i < bs := by omega
    rw [List.getElem_eq_getD false, hre i hi, chunks_eq_map hbs _ _ hml, List.any_map]
    simp only [selectBatchSpec, List.getElem_map, List.getElem_range]
    refine List.any_congr rfl ?_
    intro j
    rw [Function.comp, getD_take _ _ _ _ hi, getD_drop, zipWith_and_getD, stretch_getD hi sel j, Bool.and_comm]

end CohdlVerif.C18
