import CohdlVerif.Lemmas.C01Compile

/-! C01 - the invariant `Inv` of the open blocks (distinct, no front transition yet), the invariant `SInv` of the state
  list, and how `appendAll`, `addfrontAll`, `enterState` and the merge of the `If` branch act on single blocks. -/
namespace CohdlVerif.C01

/-- forward invariant of the open blocks -/
structure Inv (s : CSt) (O : List Nat) : Prop where
  hlt : Hlt s O
  start : s.atStart = true → O = [0]
  nodup : O.Nodup
  front : ∀ o ∈ O, (s.heap o).front = []

theorem Inv.single {s1 : CSt} {y : Nat} (hy : y < s1.next) (h0 : 0 < s1.next) (hA : s1.atStart = false)
    (hf : (s1.heap y).front = []) : Inv s1 [y] :=
  ⟨⟨fun _ ho => List.mem_singleton.mp ho ▸ hy, h0⟩, fun h => (nomatch hA.symm.trans h), by simp,
    fun _ ho => List.mem_singleton.mp ho ▸ hf⟩

theorem Inv.single_append {s : CSt} {x : Nat} (hi : Inv s [x]) (it : Item) : Inv (s.append x it) [x] :=
  Inv.single (hi.hlt.1 x (List.mem_singleton_self x)) hi.hlt.2
    (append_atStart s x it (fun h => by simpa using hi.start h))
    (by rw [append_front]; exact hi.front x (List.mem_singleton_self x))

theorem nodup_insId (acc : List Nat) (x : Nat) (h : acc.Nodup) : (insId acc x).Nodup := by
  unfold insId
  split
  · exact h
  · rename_i hx
    rw [List.nodup_append]
    refine ⟨h, by simp, ?_⟩
    intro a ha b hb
    simp at hb; subst hb
    intro e; subst e
    exact hx (by simpa using ha)

theorem nodup_insIds (xs : List Nat) : ∀ (acc : List Nat), acc.Nodup → (insIds acc xs).Nodup := by
  induction xs with
  | nil => intro acc h; exact h
  | cons x xs ih => intro acc h; exact ih _ (nodup_insId acc x h)

theorem nodup_ite {c : Prop} [Decidable c] {a b : List Nat} (ha : a.Nodup) (hb : b.Nodup) :
    (if c then a else b).Nodup := by
  split
  · exact ha
  · exact hb

theorem nodup_mergeAcc (acc : List Nat) (b tb eb : Nat) (ot oe : List Nat) (h : acc.Nodup) :
    (mergeAcc acc b tb eb ot oe).Nodup :=
  nodup_ite (nodup_insId _ _ h) (nodup_ite (nodup_insIds _ _ h) (nodup_ite (nodup_insIds _ _ (nodup_insId _ _ h))
    (nodup_ite (nodup_insIds _ _ (nodup_insId _ _ h)) (nodup_insIds _ _ h))))

theorem appendAll_front (it : Item) (x : Nat) : ∀ (bs : List Nat) (s : CSt),
    ((s.appendAll bs it).heap x).front = (s.heap x).front := by
  intro bs
  induction bs with
  | nil => intro s; rfl
  | cons b bs ih =>
    intro s
    simp only [CSt.appendAll, List.foldl_cons] at ih ⊢
    rw [ih, append_front]

theorem Inv.appendAll {s : CSt} {O : List Nat} (hi : Inv s O) (it : Item) : Inv (s.appendAll O it) O := by
  have T := (HeapExt.appendAll O it O s (fun _ h => h)).step hi.hlt.1
  refine ⟨T.hlt hi.hlt, fun h => ?_, hi.nodup, fun o ho => by rw [appendAll_front]; exact hi.front o ho⟩
  rw [appendAll_atStart hi.hlt hi.start it] at h
  cases h

theorem Inv.nil_atStart {s : CSt} (hi : Inv s []) : s.atStart = false := atStart_nil_false hi.start rfl

theorem tail_split {α : Type} {L pre suf xs : List α} (h1 : L = pre ++ suf) (h2 : (pre ++ xs) <+: L) :
    ∃ suf', suf = xs ++ suf' := by
  obtain ⟨t, ht⟩ := h2
  refine ⟨t, ?_⟩
  rw [h1, List.append_assoc] at ht
  exact (List.append_cancel_left ht).symm

theorem appendAll_heap_notin (it : Item) (x : Nat) : ∀ (bs : List Nat) (s : CSt), x ∉ bs →
    (s.appendAll bs it).heap x = s.heap x := by
  intro bs s h
  exact (HeapExt.appendAll bs it bs s (fun _ h => h)).frame x h

theorem appendAll_items_nodup (it : Item) (x : Nat) : ∀ (bs : List Nat) (s : CSt), bs.Nodup → x ∈ bs →
    ((s.appendAll bs it).heap x).items = (s.heap x).items ++ [it] := by
  intro bs
  induction bs with
  | nil => intro s _ h; exact nomatch h
  | cons b bs ih =>
    intro s hn hx
    have hn' := List.nodup_cons.mp hn
    show (((s.append b it).appendAll bs it).heap x).items = _
    rcases List.mem_cons.mp hx with h | h
    · subst h
      rw [appendAll_heap_notin it x bs _ hn'.1, append_items]
    · rw [ih _ hn'.2 h, CSt.append_heap_ne s it (fun (e : x = b) => hn'.1 (e ▸ h))]

theorem addfrontAll_heap_notin (t : Nat) (x : Nat) : ∀ (bs : List Nat) (s : CSt), x ∉ bs →
    (s.addfrontAll bs t).heap x = s.heap x := by
  intro bs
  induction bs with
  | nil => intro s _; rfl
  | cons b bs ih =>
    intro s h
    show ((s.addfront b t).addfrontAll bs t).heap x = _
    rw [ih _ (fun hm => h (List.mem_cons_of_mem _ hm)), CSt.addfront_heap_ne s t (fun (e : x = b) => h (e ▸ List.mem_cons_self ..))]

theorem addfrontAll_heap_nodup (t : Nat) (x : Nat) : ∀ (bs : List Nat) (s : CSt), bs.Nodup → x ∈ bs →
    (s.addfrontAll bs t).heap x = { s.heap x with front := t :: (s.heap x).front } := by
  intro bs
  induction bs with
  | nil => intro s _ h; exact nomatch h
  | cons b bs ih =>
    intro s hn hx
    have hn' := List.nodup_cons.mp hn
    show ((s.addfront b t).addfrontAll bs t).heap x = _
    rcases List.mem_cons.mp hx with h | h
    · subst h
      rw [addfrontAll_heap_notin t x bs _ hn'.1, CSt.addfront_heap_self]
    · rw [ih _ hn'.2 h, CSt.addfront_heap_ne s t (fun (e : x = b) => hn'.1 (e ▸ h))]

/-- invariant of the state list -/
structure SInv (s : CSt) : Prop where
  states_lt : ∀ r ∈ s.states, r < s.next
  root0 : s.root 0 = 0
  states0 : ∃ tl, s.states = 0 :: tl

theorem SInv.step {s s' : CSt} {O O' : List Nat} (h : Step s O s' O') (h0 : 0 < s.next) (hs : SInv s) : SInv s' := by
  refine ⟨h.states_lt hs.states_lt, by rw [h.root_stable 0 h0]; exact hs.root0, ?_⟩
  obtain ⟨tl, htl⟩ := hs.states0
  obtain ⟨t, ht⟩ := h.states_mono
  exact ⟨tl ++ t, by rw [← ht, htl]; rfl⟩

theorem SInv.init : SInv CSt.init := ⟨by simp [CSt.init], rfl, ⟨[], rfl⟩⟩

theorem prefix_getElem? {α : Type} {l L : List α} (h : l <+: L) (i : Nat) (hi : i < l.length) : L[i]? = l[i]? := by
  obtain ⟨t, rfl⟩ := h
  rw [List.getElem?_append_left hi]

theorem idxOf_append_new (l t : List Nat) (x : Nat) (hx : x ∉ l) : (l ++ x :: t).idxOf x = l.length := by
  rw [List.idxOf_append, if_neg hx, List.idxOf_cons_self]; omega

/-- the new state of a non-fresh `await` / `while` -/
theorem enter_nostart_facts {s : CSt} {O : List Nat} (hi : Inv s O) (hst : s.atStart = false) :
    (enterState O s).1 = s.states.length ∧ (enterState O s).2.1 = s.next ∧
    (enterState O s).2.2.next = s.next + 1 ∧ (enterState O s).2.2.heap s.next = {} ∧
    (enterState O s).2.2.root s.next = s.next ∧ (enterState O s).2.2.states = s.states ++ [s.next] ∧
    (∀ o ∈ O, (enterState O s).2.2.heap o = { s.heap o with front := [s.states.length] }) ∧
    (enterState O s).2.2.atStart = false := by
  have T0 := enterState_step O s hi.hlt (fun h => by rw [hst] at h; cases h)
  have hA := T0.atStart_false hi.hlt.2 hst
  rw [enterState_nostart O s hst] at hA ⊢
  have hne : s.next ∉ O := fun h => by have := hi.hlt.1 _ h; omega
  refine ⟨rfl, rfl, CSt.addfrontAll_next _ _ _, ?_, ?_, CSt.addfrontAll_states _ _ _, ?_, hA⟩
  · exact (addfrontAll_heap_notin _ _ O _ hne).trans (by simp [CSt.newBlock])
  · exact (congrFun (CSt.addfrontAll_root _ O _) s.next).trans (by simp [CSt.newBlock])
  · intro o ho
    have hno : o ≠ s.next := fun e => hne (e ▸ ho)
    show (CSt.addfrontAll _ O s.states.length).heap o = _
    rw [addfrontAll_heap_nodup _ o O _ hi.nodup ho]
    simp [CSt.newBlock, hno, hi.front o ho]

/-- the open block in which the continuation of an `await` is translated -/
theorem Inv.await {s : CSt} {O : List Nat} (hi : Inv s O) (cc : Option Nat) : Inv (aS cc O s) [aB cc O s] := by
  cases cc with
  | none =>
    show Inv (enterState O s).2.2 [(enterState O s).2.1]
    cases hst : s.atStart with
    | true =>
      rw [enterState_start O s hst]
      have := hi.start hst; subst this
      exact hi
    | false =>
      obtain ⟨_, e2, e3, e4, _, _, _, e8⟩ := enter_nostart_facts hi hst
      exact Inv.single (by rw [e2, e3]; omega) (by rw [e3]; omega) e8 (by rw [e2, e4])
  | some c' =>
    obtain ⟨_, T, _, hst⟩ := await_enter (some c') O s hi.hlt hi.start
    exact ⟨T.hlt hi.hlt, fun h => by rw [hst h], by simp,
      fun o ho => by rw [List.mem_singleton.mp ho]; exact itePre_child_front c' _ _⟩

theorem atStart_heap0 {s : CSt} (h : s.atStart = true) : s.heap 0 = {} := by
  simp only [CSt.atStart, Bool.and_eq_true, List.isEmpty_iff] at h
  cases hb : s.heap 0 with
  | mk f i => rw [hb] at h; simp at h; simp [h.1, h.2]

theorem mem_mergeAcc_nil (acc : List Nat) (b tb eb : Nat) (ot oe : List Nat) (y : Nat) :
    y ∈ mergeAcc acc b tb eb ot oe ↔ y ∈ acc ∨ y ∈ mergeAcc [] b tb eb ot oe := by
  rw [mem_mergeAcc_iff, mem_mergeAcc_iff [], List.mem_nil_iff, false_or]

theorem iteLoop_acc_sub (c : Nat) (ft fe : List Nat → CSt → List Nat × CSt) :
    ∀ (bs : List Nat) (s : CSt) (acc : List Nat) (y : Nat), y ∈ acc → y ∈ (iteLoop c ft fe bs s acc).1 := by
  intro bs
  induction bs with
  | nil => intro s acc y h; exact h
  | cons b bs ih =>
    intro s acc y h
    rw [iteLoop_cons]
    exact ih _ _ y ((mem_mergeAcc_nil _ _ _ _ _ _ _).mpr (Or.inl h))

/-- unless both branches are free of transitions, the blocks kept are the open blocks of the branches -/
theorem mergeAcc_other (b tb eb : Nat) (ot oe : List Nat)
    (h : ¬ (anyTrans tb ot = false ∧ anyTrans eb oe = false)) (y : Nat) :
    y ∈ mergeAcc [] b tb eb ot oe ↔ y ∈ ot ∨ y ∈ oe := by
  rw [mem_mergeAcc_iff, if_neg h, List.mem_nil_iff, false_or]

theorem mergeAcc_both (b tb eb : Nat) (ot oe : List Nat) (h1 : anyTrans tb ot = false) (h2 : anyTrans eb oe = false) :
    mergeAcc [] b tb eb ot oe = [b] := by
  simp [mergeAcc, h1, h2, insId]

/-- the parent block is only kept when neither branch set a transition -/
theorem mergeAcc_parent (x tb eb : Nat) (ot oe : List Nat) (hot : x ∉ ot) (hoe : x ∉ oe)
    (h : x ∈ mergeAcc [] x tb eb ot oe) :
    anyTrans tb ot = false ∧ anyTrans eb oe = false ∧ mergeAcc [] x tb eb ot oe = [x] := by
  by_cases hc : anyTrans tb ot = false ∧ anyTrans eb oe = false
  · exact ⟨hc.1, hc.2, mergeAcc_both x tb eb ot oe hc.1 hc.2⟩
  · exact absurd ((mergeAcc_other x tb eb ot oe hc x).mp h) (not_or.mpr ⟨hot, hoe⟩)

theorem appendAll_bad (it : Item) (bs : List Nat) (s : CSt) : (s.appendAll bs it).bad = s.bad :=
  (HeapExt.appendAll bs it bs s (fun _ h => h)).bad_eq

theorem Inv.init : Inv CSt.init [0] := by
  refine ⟨⟨by simp [CSt.init], by simp [CSt.init]⟩, fun _ => rfl, by simp, ?_⟩
  intro o ho; simp [CSt.init]

end CohdlVerif.C01
