import CohdlVerif.Lemmas.C01Pending

/-! C01 - `if`: one iteration of the `If` loop (`IterCtx`) and the pending blocks of the whole loop. -/
namespace CohdlVerif.C01

/- One iteration of the `If` loop on the open block `b` goes through five states, and the digits in `hi3`, `hA4`, `n5` ...
   count them: 1, 2 after the two `newBlock`s (then-block `s.next`, else-block `s.next + 1`), 3 = `itePre c b s` (the `If`
   appended to `b`), 4 = `(iR4 ..).2` after the then-branch, 5 = `(iR5 ..).2` after the else-branch. -/

/-- result of translating the body of an `If` in block `b` -/
def iR4 (t1 : Stmt) (c b : Nat) (s : CSt) : List Nat × CSt := compile t1 [s.next] (itePre c b s)

/-- result of translating the else branch -/
def iR5 (t1 e1 : Stmt) (c b : Nat) (s : CSt) : List Nat × CSt := compile e1 [s.next + 1] (iR4 t1 c b s).2

/-- one iteration of the `If` loop on block `b`: the steps and, per state, the invariants -/
structure IterCtx (t1 e1 : Stmt) (c b : Nat) (s : CSt) : Prop where
  T1 : Step s [b] (itePre c b s) [s.next + 1, s.next, b]
  hA3 : (itePre c b s).atStart = false
  hi3 : Inv (itePre c b s) [s.next]
  hsi3 : SInv (itePre c b s)
  Tt : Step (itePre c b s) [s.next] (iR4 t1 c b s).2 (iR4 t1 c b s).1
  hA4 : (iR4 t1 c b s).2.atStart = false
  n4 : s.next + 2 ≤ (iR4 t1 c b s).2.next
  hi4 : Inv (iR4 t1 c b s).2 [s.next + 1]
  hsi4 : SInv (iR4 t1 c b s).2
  Te : Step (iR4 t1 c b s).2 [s.next + 1] (iR5 t1 e1 c b s).2 (iR5 t1 e1 c b s).1
  hA5 : (iR5 t1 e1 c b s).2.atStart = false
  n5 : (iR4 t1 c b s).2.next ≤ (iR5 t1 e1 c b s).2.next
  hsi5 : SInv (iR5 t1 e1 c b s).2
  outs_t : ∀ y ∈ Outs (itePre c b s) (iR4 t1 c b s).1 (iR4 t1 c b s).2,
    (y = s.next ∨ s.next + 2 ≤ y) ∧ y < (iR4 t1 c b s).2.next
  outs_e : ∀ y ∈ Outs (iR4 t1 c b s).2 (iR5 t1 e1 c b s).1 (iR5 t1 e1 c b s).2,
    (y = s.next + 1 ∨ (iR4 t1 c b s).2.next ≤ y) ∧ y < (iR5 t1 e1 c b s).2.next
  T : Step s [b] (iR5 t1 e1 c b s).2 (s.next :: (s.next + 1) :: b :: ((iR4 t1 c b s).1 ++ (iR5 t1 e1 c b s).1))

/-- members of the blocks kept by one iteration: where they live -/
theorem mergeAcc_nil_range {t1 e1 : Stmt} {c b : Nat} {s : CSt} (X : IterCtx t1 e1 c b s) (hb : b < s.next) {o : Nat}
    (ho : o ∈ mergeAcc [] b s.next (s.next + 1) (iR4 t1 c b s).1 (iR5 t1 e1 c b s).1) :
    (o = b ∨ s.next ≤ o) ∧ o < (iR5 t1 e1 c b s).2.next := by
  have n4 := X.n4
  have n5 := X.n5
  rcases mem_mergeAcc ho with h | h | h | h
  · simp at h
  · exact ⟨Or.inl h, by omega⟩
  · have := X.outs_t o (mem_Outs.mpr (Or.inl h)); exact ⟨Or.inr (by omega), by omega⟩
  · have := X.outs_e o (mem_Outs.mpr (Or.inl h)); exact ⟨Or.inr (by omega), by omega⟩

/-- one iteration of the `If` loop on the first of the pending blocks `b :: bs ++ acc` reached from `(s0, O0)` -/
theorem iteIter_fpost (c : Nat) (t1 e1 : Stmt) (l cf : Bool) (ht : CSpec (compile t1) l cf) (he : CSpec (compile e1) l cf)
    (ft : FwdG (compile t1) l) (fe : FwdG (compile e1) l) {s0 : CSt} {O0 : List Nat} (hl0 : Hlt s0 O0) (b : Nat)
    (bs acc : List Nat) (s : CSt) (hS : Step s0 O0 s (b :: bs ++ acc)) (hP : FPost s0 (b :: bs ++ acc) s)
    (hs : s.atStart = true → b = 0) :
    Step s0 O0 (iR5 t1 e1 c b s).2 (bs ++ mergeAcc acc b s.next (s.next + 1) (iR4 t1 c b s).1 (iR5 t1 e1 c b s).1) ∧
    FPost s0 (bs ++ mergeAcc acc b s.next (s.next + 1) (iR4 t1 c b s).1 (iR5 t1 e1 c b s).1) (iR5 t1 e1 c b s).2 ∧
    (iR5 t1 e1 c b s).2.atStart = false := by
  have hl := hS.hlt hl0
  have hb : b < s.next := hl.1 b (List.mem_cons_self ..)
  have hA3 := itePre_atStart c b s hb hl.2 hs
  -- (a) the If is appended
  have F1 : FPost s [s.next + 1, s.next, b] (itePre c b s) := by
    refine FPost.of_same (itePre_sameLists c b s) (by simp; omega) (fun o ho => ?_)
    simp only [List.mem_cons, List.not_mem_nil, or_false] at ho
    rcases ho with h | h | h
    · rw [h]; exact itePre_child2_front c b s
    · rw [h]; exact itePre_child_front c b s
    · rw [h, itePre_front_parent c b s hb]; exact hP.2 b (mem_Outs.mpr (Or.inl (List.mem_cons_self ..)))
  obtain ⟨Sa0, Pa0⟩ := FPost.extend (O1 := [b]) hl0 hS hP (itePre_step c b s hb) F1
  obtain ⟨Sa, Pa⟩ := FPost.perm (L' := [s.next] ++ ((s.next + 1) :: b :: (bs ++ acc))) Sa0 Pa0
    (List.Perm.swap (s.next + 1) s.next (b :: (bs ++ acc)))
  -- (b) the body
  have hl3 := Sa.hlt hl0
  have hi3 : Inv (itePre c b s) [s.next] :=
    Inv.single (hl3.1 _ (List.mem_cons_self ..)) hl3.2 hA3 (itePre_child_front c b s)
  have Tt : Step (itePre c b s) [s.next] (iR4 t1 c b s).2 (iR4 t1 c b s).1 := ht.step hi3 (fun _ => hA3)
  obtain ⟨Sb, Pb⟩ := FPost.extend hl0 Sa Pa Tt (ft _ _ hi3 (fun _ => hA3))
  -- (c) the else branch: its block comes first
  obtain ⟨Sc, Pc⟩ := FPost.perm (L' := [s.next + 1] ++ ((iR4 t1 c b s).1 ++ (b :: (bs ++ acc)))) Sb Pb
    (by simpa using (List.perm_middle (a := s.next + 1) (l₁ := (iR4 t1 c b s).1) (l₂ := b :: (bs ++ acc))).symm)
  have hl4 := Sc.hlt hl0
  have hA4 := Tt.atStart_false hl3.2 hA3
  have hi4 : Inv (iR4 t1 c b s).2 [s.next + 1] :=
    Inv.single (hl4.1 _ (List.mem_cons_self ..)) hl4.2 hA4 (Pc.2 _ (mem_Outs.mpr (Or.inl (List.mem_cons_self ..))))
  have Te : Step (iR4 t1 c b s).2 [s.next + 1] (iR5 t1 e1 c b s).2 (iR5 t1 e1 c b s).1 := he.step hi4 (fun _ => hA4)
  obtain ⟨Sd, Pd⟩ := FPost.extend hl0 Sc Pc Te (fe _ _ hi4 (fun _ => hA4))
  -- the blocks kept
  have hnd : (b :: (bs ++ acc)).Nodup := hP.nodup_open
  have hbig := Pd.nodup_open
  have hsub : ∀ y ∈ bs ++ mergeAcc acc b s.next (s.next + 1) (iR4 t1 c b s).1 (iR5 t1 e1 c b s).1,
      y ∈ (iR5 t1 e1 c b s).1 ++ ((iR4 t1 c b s).1 ++ (b :: (bs ++ acc))) := by
    intro y hy
    rcases List.mem_append.mp hy with h | h
    · simp [h]
    · rcases mem_mergeAcc h with h | h | h | h <;> simp [h]
  have hn1 : (bs ++ mergeAcc acc b s.next (s.next + 1) (iR4 t1 c b s).1 (iR5 t1 e1 c b s).1).Nodup := by
    rw [List.nodup_append]
    refine ⟨(List.nodup_append.mp (List.nodup_cons.mp hnd).2).1,
      nodup_mergeAcc _ _ _ _ _ _ (List.nodup_append.mp (List.nodup_cons.mp hnd).2).2.1, ?_⟩
    intro a ha a' ha' e
    subst e
    have h1 := List.nodup_append.mp hbig
    have h2 := List.nodup_append.mp h1.2.1
    have h3 := List.nodup_cons.mp h2.2.1
    rcases mem_mergeAcc ha' with h | h | h | h
    · exact (List.nodup_append.mp h3.2).2.2 a ha a h rfl
    · exact h3.1 (h ▸ List.mem_append_left _ ha)
    · exact h2.2.2 a h a (List.mem_cons_of_mem _ (List.mem_append_left _ ha)) rfl
    · exact h1.2.2 a h a (List.mem_append_right _ (List.mem_cons_of_mem _ (List.mem_append_left _ ha))) rfl
  exact ⟨Sd.weaken (fun _ h => h) (fun o ho => Sd.open_r o (hsub o ho)), Pd.restrict hn1 hsub, Te.atStart_false hl4.2 hA4⟩

theorem iteLoop_consR (c : Nat) (t1 e1 : Stmt) (b : Nat) (bs : List Nat) (s : CSt) (acc : List Nat) :
    iteLoop c (compile t1) (compile e1) (b :: bs) s acc =
      iteLoop c (compile t1) (compile e1) bs (iR5 t1 e1 c b s).2
        (mergeAcc acc b s.next (s.next + 1) (iR4 t1 c b s).1 (iR5 t1 e1 c b s).1) := iteLoop_cons ..

theorem iteLoop_fpost (c : Nat) (t1 e1 : Stmt) (l cf : Bool) (ht : CSpec (compile t1) l cf)
    (he : CSpec (compile e1) l cf) (ft : FwdG (compile t1) l) (fe : FwdG (compile e1) l)
    (s0 : CSt) (O0 : List Nat) (hl0 : Hlt s0 O0) :
    ∀ (bs : List Nat) (s : CSt) (acc : List Nat), Step s0 O0 s (bs ++ acc) → FPost s0 (bs ++ acc) s →
      (s.atStart = true → bs = [0]) →
      FPost s0 (iteLoop c (compile t1) (compile e1) bs s acc).1 (iteLoop c (compile t1) (compile e1) bs s acc).2 ∧
      Step s0 O0 (iteLoop c (compile t1) (compile e1) bs s acc).2 (iteLoop c (compile t1) (compile e1) bs s acc).1 := by
  intro bs
  induction bs with
  | nil => intro s acc hS hP _; simpa [iteLoop] using And.intro hP hS
  | cons b bs ih =>
    intro s acc hS hP hst
    rw [iteLoop_consR]
    obtain ⟨S5, P5, hA5⟩ := iteIter_fpost c t1 e1 l cf ht he ft fe hl0 b bs acc s hS hP
      (fun h => (List.cons.inj (hst h)).1)
    exact ih _ _ S5 P5 (fun h => by rw [hA5] at h; cases h)

theorem fwd_ite (cc : Nat) (t e k : Stmt) (l c : Bool) (ht : CSpec (compile t) l c) (he : CSpec (compile e) l c)
    (hk : CSpec (compile k) l c) (ft : FwdG (compile t) l) (fe : FwdG (compile e) l) (fk : FwdG (compile k) l) :
    FwdG (compile (.ite cc t e k)) l := by
  intro O s hi hL
  have hP0 : FPost s (O ++ []) s := FPost.of_same (SameLists.refl s) (by simpa using hi.nodup) (by simpa using hi.front)
  have hS0 : Step s O s (O ++ []) := by simpa using Step.refl s O
  obtain ⟨P, S⟩ := iteLoop_fpost cc t e l c ht he ft fe s O hi.hlt O s [] hS0 hP0 hi.start
  obtain ⟨_, _, hA⟩ := iteLoop_step cc (compile t) (compile e) ht.br he.br O s [] hi.hlt hi.start
  rw [compile_ite]
  split
  · exact P
  · have hAe : (iteLoop cc (compile t) (compile e) O s []).2.atStart = false := by
      by_cases hO : O = []
      · subst hO; simp only [iteLoop]; exact hi.nil_atStart
      · exact hA hO
    have hie : Inv (iteLoop cc (compile t) (compile e) O s []).2 (iteLoop cc (compile t) (compile e) O s []).1 :=
      ⟨S.hlt hi.hlt, fun h => (by rw [hAe] at h; cases h), P.nodup_open,
       fun o ho => P.2 o (mem_Outs.mpr (Or.inl ho))⟩
    exact FPost.comp hi.hlt.1 S (hk.step hie (fun _ => hAe)) P (fk _ _ hie (fun _ => hAe))

theorem iterCtxG (t1 e1 : Stmt) (l cf : Bool) (ht : CSpec (compile t1) l cf) (he : CSpec (compile e1) l cf)
    (c b : Nat) (s : CSt) (hb : b < s.next)
    (h0 : 0 < s.next) (hs : s.atStart = true → b = 0) (hsi : SInv s) : IterCtx t1 e1 c b s := by
  have T1 := itePre_step c b s hb
  have hA3 := itePre_atStart c b s hb h0 hs
  have hl3 := T1.hlt ⟨by simpa using hb, h0⟩
  have hn3 : (itePre c b s).next = s.next + 2 := rfl
  have hi3 : Inv (itePre c b s) [s.next] := Inv.single (by omega) hl3.2 hA3 (itePre_child_front c b s)
  have hsi3 := hsi.step T1 h0
  have Tt : Step (itePre c b s) [s.next] (compile t1 [s.next] (itePre c b s)).2 (compile t1 [s.next] (itePre c b s)).1 :=
    ht.step hi3 (fun _ => hA3)
  have hA4 := Tt.atStart_false hl3.2 hA3
  have hn4 := Tt.next_le
  have hfe : ((compile t1 [s.next] (itePre c b s)).2.heap (s.next + 1)).front = [] := by
    rw [Tt.frame (s.next + 1) (by omega) (by simp)]; exact itePre_child2_front c b s
  have hi4 : Inv (compile t1 [s.next] (itePre c b s)).2 [s.next + 1] :=
    Inv.single (by omega) (by omega) hA4 hfe
  have hsi4 := hsi3.step Tt hl3.2
  have Te := he.step hi4 (fun _ => hA4)
  exact ⟨T1, hA3, hi3, hsi3, Tt, hA4, hn4, hi4, hsi4, Te, Te.atStart_false hi4.hlt.2 hA4,
    Te.next_le, hsi4.step Te hi4.hlt.2, fun y hy => (Tt.outs_r y hy).range1 (by omega) hn4,
    fun y hy => (Te.outs_r y hy).range1 (by omega) Te.next_le,
    (iteIter_step c (compile t1) (compile e1) ht.br he.br b s hb h0 hs).1⟩

/-- the iteration leaves the parent block with the `If` appended ... -/
theorem IterCtx.heap_parent {t1 e1 : Stmt} {c b : Nat} {s : CSt} (X : IterCtx t1 e1 c b s) (hb : b < s.next) :
    (iR5 t1 e1 c b s).2.heap b = { s.heap b with items := (s.heap b).items ++ [.ite c s.next (s.next + 1)] } := by
  have := X.n4
  rw [X.Te.frame b (by omega) (by simp; omega), X.Tt.frame b (by simp [itePre_next]; omega) (by simp; omega),
    itePre_parent_heap c b s hb]

/-- ... and the body leaves the block of the else branch empty -/
theorem IterCtx.heap_e {t1 e1 : Stmt} {c b : Nat} {s : CSt} (X : IterCtx t1 e1 c b s) (hb : b < s.next) :
    (iR4 t1 c b s).2.heap (s.next + 1) = {} := by
  rw [X.Tt.frame (s.next + 1) (by simp [itePre_next]) (by simp), itePre_child2_heap c b s hb]

theorem iteLoop_badMono (c : Nat) (ft fe : List Nat → CSt → List Nat × CSt) (ht : BadMono ft) (he : BadMono fe) :
    ∀ (bs : List Nat) (s : CSt) (acc : List Nat), (iteLoop c ft fe bs s acc).2.bad = false → s.bad = false := by
  intro bs
  induction bs with
  | nil => intro s acc h; exact h
  | cons b bs ih =>
    intro s acc h
    rw [iteLoop_cons] at h
    have h5 := ih _ _ h
    have h4 := he _ _ h5
    have h3 := ht _ _ h4
    exact h3

theorem compile_ite_one (c : Nat) (t1 e1 k : Stmt) (x : Nat) (s : CSt) :
    compile (.ite c t1 e1 k) [x] s =
      if retAlways t1 && retAlways e1 then
        (mergeAcc [] x s.next (s.next + 1) (iR4 t1 c x s).1 (iR5 t1 e1 c x s).1, (iR5 t1 e1 c x s).2)
      else compile k (mergeAcc [] x s.next (s.next + 1) (iR4 t1 c x s).1 (iR5 t1 e1 c x s).1) (iR5 t1 e1 c x s).2 := by
  rw [compile_ite, iteLoop_consR]
  simp [iteLoop]

/-- an `If` from the single open block `x` that leaves `x` pending: neither branch set a transition, the merge kept
    exactly `x`, and `k` is translated from `x` -/
theorem ite_pend (c : Nat) (t1 e1 k : Stmt) (l cf : Bool) (ht : CSpec (compile t1) l cf) (he : CSpec (compile e1) l cf)
    (hk : CSpec (compile k) l cf) (x : Nat) (s : CSt) (hi : Inv s [x]) (hsi : SInv s)
    (hn : x ∈ Outs s (compile (.ite c t1 e1 k) [x] s).1 (compile (.ite c t1 e1 k) [x] s).2) :
    IterCtx t1 e1 c x s ∧ anyTrans s.next (iR4 t1 c x s).1 = false ∧ anyTrans (s.next + 1) (iR5 t1 e1 c x s).1 = false ∧
    compile (.ite c t1 e1 k) [x] s = compile k [x] (iR5 t1 e1 c x s).2 ∧
    Step (iR5 t1 e1 c x s).2 [x] (compile k [x] (iR5 t1 e1 c x s).2).2 (compile k [x] (iR5 t1 e1 c x s).2).1 ∧
    Inv (iR5 t1 e1 c x s).2 [x] ∧ Step s [x] (iR5 t1 e1 c x s).2 [x] := by
  have hx : x < s.next := hi.hlt.1 x (by simp)
  have hsx : s.atStart = true → x = 0 := fun h => by simpa using hi.start h
  have X := iterCtxG t1 e1 l cf ht he c x s hx hi.hlt.2 hsx hsi
  have T := X.T
  have n4 := X.n4
  have n5 := X.n5
  have hxot : x ∉ (iR4 t1 c x s).1 := fun h => by have := X.outs_t x (mem_Outs.mpr (Or.inl h)); omega
  have hxoe : x ∉ (iR5 t1 e1 c x s).1 := fun h => by have := X.outs_e x (mem_Outs.mpr (Or.inl h)); omega
  have hlacc : Hlt (iR5 t1 e1 c x s).2 (mergeAcc [] x s.next (s.next + 1) (iR4 t1 c x s).1 (iR5 t1 e1 c x s).1) :=
    ⟨fun o ho => (mergeAcc_nil_range X hx ho).2, by omega⟩
  -- what the iteration lists comes from the branches, whose blocks are new
  have hnotlist : x ∉ Outs s [] (iR5 t1 e1 c x s).2 := fun h => by
    rw [← Outs_congr (itePre_sameLists c x s), mem_Outs_trans X.Tt X.Te] at h
    rcases h with h | h
    · have := X.outs_t x (mem_Outs_nil.mpr (Or.inr h)); omega
    · have := X.outs_e x (mem_Outs_nil.mpr (Or.inr h)); omega
  have hxacc : x ∈ mergeAcc [] x s.next (s.next + 1) (iR4 t1 c x s).1 (iR5 t1 e1 c x s).1 := by
    rw [compile_ite_one] at hn
    split at hn
    · exact (mem_Outs_nil.mp hn).resolve_right hnotlist
    · have Tk := (hk _ _ hlacc (fun h => by rw [X.hA5] at h; cases h) (fun _ => X.hA5)).1
      rcases (Tk.outs_r x (((mem_Outs_trans T Tk).mp hn).resolve_left hnotlist)).1 with h | h
      · exact h
      · omega
  obtain ⟨hat, hae, hacc⟩ := mergeAcc_parent x s.next (s.next + 1) _ _ hxot hxoe hxacc
  have hra : (retAlways t1 && retAlways e1) = false := by
    cases hr : retAlways t1
    · rfl
    · exact absurd (retAlways_open_nil t1 hr [s.next] (itePre c x s)) ((anyTrans_false_iff _ _).mp hat).1
  have heq : compile (.ite c t1 e1 k) [x] s = compile k [x] (iR5 t1 e1 c x s).2 := by
    rw [compile_ite_one, hacc]; simp [hra]
  have hfx5 : ((iR5 t1 e1 c x s).2.heap x).front = [] := by
    rw [X.heap_parent hx]
    exact hi.front x (by simp)
  have hi5 : Inv (iR5 t1 e1 c x s).2 [x] := Inv.single (by omega) (by omega) X.hA5 hfx5
  exact ⟨X, hat, hae, heq, (hk _ _ hi5.hlt hi5.start (fun _ => X.hA5)).1, hi5,
    T.weaken (fun _ h => h) (fun o ho => T.open_r o (by simp at ho; simp [ho]))⟩

/-- when both branches of an `If` end in their own block neither touched the lists -/
theorem ite_pend_sameLists {t e : Stmt} {cc x : Nat} {s : CSt} (pt : PendS t) (pe : PendS e) (X : IterCtx t e cc x s)
    (hat : anyTrans s.next (iR4 t cc x s).1 = false) (hae : anyTrans (s.next + 1) (iR5 t e cc x s).1 = false) :
    SameLists s (iR5 t e cc x s).2 :=
  ((itePre_sameLists cc x s).trans ((pt _ _ X.hi3 X.hsi3 X.hA3).1 ((anyTrans_false_iff _ _).mp hat).mem).2).trans
    ((pe _ _ X.hi4 X.hsi4 X.hA4).1 ((anyTrans_false_iff _ _).mp hae).mem).2

end CohdlVerif.C01
