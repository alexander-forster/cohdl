import CohdlVerif.Model.C13Session
import CohdlVerif.Lemmas.C13Views
/-! C13 part B - sessions: invariant of interleaved view construction and writes -/
namespace CohdlVerif.C13

theorem copySeqCells_length : ∀ (ts cs : List Nat) (s : List Bool), (copySeqCells s ts cs).length = s.length := by
  intro ts
  induction ts with
  | nil => intro cs s; simp [copySeqCells]
  | cons t ts ih =>
    intro cs s
    cases cs with
    | nil => simp [copySeqCells, ih]
    | cons c cs => simp [copySeqCells, ih]

/-- the storage keeps its width, every live view is a well-formed view of the one root -/
def SessOK (W : Nat) (σ : Sess) : Prop :=
  σ.store.length = W ∧ ∀ v, some v ∈ σ.views → RefOK W v ∧ v.root = 0 ∧ v.qual = .signal

theorem Sess.get_mem (σ : Sess) (i : Nat) (v : View) (h : σ.get i = some v) : some v ∈ σ.views := by
  unfold Sess.get at h
  split at h
  · next heq => simp at h; subst h; exact List.mem_of_getElem? heq
  · simp at h

theorem step_ok (W : Nat) (σ : Sess) (st : Step) (h : SessOK W σ) : SessOK W (σ.step st).1 := by
  obtain ⟨hl, hv⟩ := h
  cases st with
  | view p op =>
    simp only [Sess.step]
    split
    · exact ⟨hl, by intro v hm; simp at hm; exact hv v hm⟩
    · next v hg =>
      split
      · exact ⟨hl, by intro v hm; simp at hm; exact hv v hm⟩
      · next v' ha =>
        refine ⟨hl, ?_⟩
        intro u hm
        simp only [List.mem_append, List.mem_singleton, Option.some.injEq] at hm
        rcases hm with hm | rfl
        · exact hv u hm
        · have hp := hv v (Sess.get_mem σ p v hg)
          exact ⟨applyOp_ok W v u op hp.1 ha, applyOp_root_qual v u op hp.2 ha⟩
  | wr t bits =>
    simp only [Sess.step]
    split
    · exact ⟨hl, hv⟩
    · split
      · exact ⟨by simp [write_length, hl], hv⟩
      · exact ⟨hl, hv⟩
  | copySeq t s =>
    simp only [Sess.step]
    split
    · split
      · exact ⟨by simp [copySeqCells_length, hl], hv⟩
      · exact ⟨hl, hv⟩
    · exact ⟨hl, hv⟩
  | copySnap t s sx =>
    simp only [Sess.step]
    split
    · split
      · exact ⟨by simp [write_length, hl], hv⟩
      · exact ⟨hl, hv⟩
    · exact ⟨hl, hv⟩
  | rejected => exact ⟨hl, hv⟩

def runSess (σ : Sess) (steps : List Step) : Sess := steps.foldl (fun σ st => (σ.step st).1) σ

theorem runSess_ok (W : Nat) : ∀ (steps : List Step) (σ : Sess), SessOK W σ → SessOK W (runSess σ steps) := by
  intro steps
  induction steps with
  | nil => intro σ h; exact h
  | cons st steps ih => intro σ h; exact ih _ (step_ok W σ st h)

theorem init_ok (vt : VT) (bits : List Bool) (hvt : vt ≠ .bit) : SessOK bits.length (Sess.init vt bits) := by
  refine ⟨rfl, ?_⟩
  intro v hm
  simp [Sess.init] at hm
  subst hm
  exact ⟨rootView_ok 0 .signal vt bits.length hvt, rfl, rfl⟩

end CohdlVerif.C13
