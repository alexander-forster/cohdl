import CohdlVerif.Lemmas.C19Arith
import CohdlVerif.Lemmas.C19Round

/-! C19: SFixed `resize_fn` computes `specResizeS`.  `resizeSCore_spec` follows the case analysis of
    `_resize_overlapping` once; each branch evaluates to `wrapS` of a value that the lemmas on `quantize`,
    `wrapS` and `clamp` identify with the specification. -/

namespace CohdlVerif.C19

theorem msbBit_pat (w v : Int) (hw : 1 ≤ w) (hv : inRangeS w v) : (pat w v).msbBit = decide (v < 0) := by
  have hK := p2_pos (w - 1)
  have hq := ediv_rangeS v w (w - 1) (by omega) (by omega) hv
  have hs : v / p2 (w - 1) < 0 ↔ v < 0 := by rw [Int.ediv_lt_iff_lt_mul hK, Int.zero_mul]
  unfold inRangeS at hq
  rw [show w - (w - 1) - 1 = 0 by omega, p2_zero] at hq
  unfold BV.msbBit pat
  dsimp only
  rw [emod_ediv_p2 v w (w - 1) (by omega) (by omega), Int.sub_sub_self, p2_one]
  by_cases hneg : v < 0
  · rw [show v / p2 (w - 1) = -1 by omega, decide_eq_true hneg]
    rfl
  · rw [show v / p2 (w - 1) = 0 by omega, decide_eq_false hneg]
    rfl

/-- the overflow bits of the SATURATE branches are `v / 2^m` modulo `2^o` -/
theorem sat_flagsS (w v o m : Int) (hv : inRangeS w v) (ho : 1 ≤ o) (hm0 : 0 ≤ m) (hm : m = w - 1 - o) :
    (!decide (v < 0) && (pat o (v / p2 m)).any) = decide (p2 m ≤ v) ∧
    (decide (v < 0) && (pat o (v / p2 m)).inv.any) = decide (v < -(p2 m)) := by
  have hK := p2_pos m
  have hq := ediv_rangeS v w m hm0 (by omega) hv
  unfold inRangeS at hq
  rw [show w - m - 1 = o by omega] at hq
  have hc := emod_cases (v / p2 m) (p2 o) hq.1 hq.2
  have h1 : p2 m ≤ v ↔ 1 ≤ v / p2 m := by rw [Int.le_ediv_iff_mul_le hK, Int.one_mul]
  have h2 : v < 0 ↔ v / p2 m < 0 := by rw [Int.ediv_lt_iff_lt_mul hK, Int.zero_mul]
  have h3 : v < -(p2 m) ↔ v / p2 m < -1 := by rw [Int.ediv_lt_iff_lt_mul hK, Int.neg_mul, Int.one_mul]
  unfold BV.any BV.inv pat
  dsimp only
  -- state the flags on the quotient `v / 2^m`, which lies between `-2^o` and `2^o`
  simp only [h1, h2, h3]
  clear h1 h2 h3
  constructor
  all_goals
    rw [Bool.eq_iff_iff]
    simp only [Bool.and_eq_true, Bool.not_eq_true', decide_eq_true_eq, decide_eq_false_iff_not, bne_iff_ne, ne_eq]
    omega

theorem finishS {tw x : Int} (htw : 1 ≤ tw) :
    (do let y ← sFromS tw (pat tw x); let y ← resultRaw tw y; pure y.sInt) = .ok (wrapS tw x) := by
  rw [sFromS_pat tw tw x htw (Int.le_refl _), pat_wrapS, ok_bind, resultRaw_pat rfl, ok_bind, sInt_pat tw x htw]
  rfl

theorem satS (tw x d : Int) (u o : Bool) (htw : 1 ≤ tw) (hu : u → x ≤ -(p2 (tw - 1)))
    (ho : ¬ u → o → p2 (tw - 1) - 1 ≤ x) (hd : ¬ u → ¬ o → d = x ∧ -(p2 (tw - 1)) ≤ x ∧ x ≤ p2 (tw - 1) - 1) :
    wrapS tw (if u then -(p2 (tw - 1)) else if o then p2 (tw - 1) - 1 else d) = overflowS tw x .saturate := by
  have hp := p2_pos (tw - 1)
  have hlh : -(p2 (tw - 1)) ≤ p2 (tw - 1) - 1 := by omega
  have hr := clamp_range _ _ x hlh
  rw [clamp_flags _ _ x d u o hlh hu ho hd]
  exact wrapS_id htw ⟨hr.1, by omega⟩

/-- `hf`: both formats are nonempty and have a bit position in common -/
theorem resizeSCore_spec {l r v l' r' : Int} {rs : Round} {os : Ovf} (hv : inRangeS (l - r + 1) v)
    (hf : r ≤ l ∧ r' ≤ l' ∧ r' ≤ l ∧ r ≤ l') :
    resizeSCore l r v l' r' rs os = .ok (specResizeS r v l' r' rs os) := by
  obtain ⟨hlr, hlr', ho1, ho2⟩ := hf
  have htw := width_pos hlr'
  unfold resizeSCore specResizeS
  dsimp only
  rw [mkS_ok (width_pos hlr) hv, mkS_ok htw (loS_range _), mkS_ok htw (hiS_range _)]
  simp only [ok_bind]
  by_cases hl : l > l'
  · -- what several branches share: the cut on the left, and the sign and overflow flags of SATURATE
    obtain ⟨hover, hunder⟩ := sat_flagsS (l - r + 1) v (l - l') (l' - r) hv (by omega) (by omega) (by omega)
    simp only [if_pos hl, lsbRest_pat (l - r + 1) v (l - l') (l' - r + 1) (by omega) (by omega) (by omega),
      lsbRest_pat (l - r + 1) v 1 (l - r) (by omega) (by omega) (by omega),
      Int.min_eq_left (show l - l' ≤ l - r + 1 - 1 by omega),
      left_pat (l - r) v (l - l') (l' - r) (by omega) (by omega) (by omega),
      msbBit_pat (l - r + 1) v (by omega) hv, hover, hunder, ok_bind]
    clear hover hunder
    by_cases hr : r ≥ r'
    · simp only [if_pos hr, if_neg (show ¬ (pat (l - r + 1) v).w ≤ l - l' by rw [pat_w]; omega),
        quantize_ext hr]
      cases os with
      | wrap =>
        dsimp only
        rw [pat_w, sResize_pat (by omega) (by omega) (Int.le_refl _),
          ← wrapS_scale _ _ _ (by omega) (by omega), pat_wrapS, ok_bind, resultRaw_pat (by omega), ok_bind,
          sInt_pat _ _ htw, overflowS_wrap]
        rfl
      | saturate =>
        dsimp only
        obtain ⟨h1, h2⟩ := thr_mul v (l' - r) (r - r') (l' - r' + 1 - 1) (by omega) (by omega) (by omega)
        simp only [← h1, ← h2]
        rw [sResize_pat (by omega) (by omega) (by omega), ok_bind, choose2_pat, finishS htw]
        refine congrArg Except.ok (satS _ (v * p2 (r - r')) _ _ _ htw ?_ ?_ ?_)
        all_goals simp only [decide_eq_true_eq]
        · omega
        · omega
        · intro hu ho
          have hvn : inRangeS (l' - r + 1) v := by
            unfold inRangeS
            rw [show l' - r + 1 - 1 = l' - r by omega]
            omega
          rw [wrapS_id (by omega) hvn]
          exact ⟨rfl, by omega⟩
    · -- a cut on the right as well: the kept bits and the rounding increment
      have hr' : r < r' := Int.not_le.mp hr
      simp only [if_neg hr, msbRest_pat (l' - r + 1) v (r' - r) (l' - r' + 1) (by omega) (by omega) (by omega),
        doRound_pat (l - r + 1) v (r' - r) (by omega) (by omega), uAdd_pat htw, ok_bind]
      cases os with
      | wrap =>
        cases rs with
        | truncate =>
          dsimp only
          rw [finishS htw, quantize_trunc hr', overflowS_wrap]
        | round =>
          dsimp only
          rw [finishS htw, quantize_round hr', overflowS_wrap]
      | saturate =>
        obtain ⟨h1, h2⟩ := thr_div v (l' - r) (r' - r) (l' - r' + 1 - 1) (by omega) (by omega) (by omega)
        simp only [← h1, ← h2]
        clear h1 h2
        cases rs with
        | truncate =>
          dsimp only
          rw [choose2_pat, finishS htw, quantize_trunc hr']
          refine congrArg Except.ok (satS _ (v / p2 (r' - r)) _ _ _ htw ?_ ?_ ?_)
          all_goals simp only [decide_eq_true_eq, true_and]
          all_goals omega
        | round =>
          dsimp only
          rw [sInt_pat _ _ htw, sInt_pat _ _ htw, wrapS_id htw (hiS_range _), choose2_pat, finishS htw,
            quantize_round hr']
          have hd := roundInc_01 v (r' - r)
          have hw : ¬ v / p2 (r' - r) < -(p2 (l' - r' + 1 - 1)) → ¬ p2 (l' - r' + 1 - 1) ≤ v / p2 (r' - r) →
              wrapS (l' - r' + 1) (v / p2 (r' - r)) = v / p2 (r' - r) :=
            fun hu ho => wrapS_id htw ⟨by omega, by omega⟩
          refine congrArg Except.ok (satS _ (v / p2 (r' - r) + roundInc v (r' - r)) _ _ _ htw ?_ ?_ ?_)
          all_goals simp only [decide_eq_true_eq, Bool.or_eq_true, Bool.and_eq_true, bne_iff_ne, beq_iff_eq, ne_eq,
            true_and]
          all_goals omega
  · rw [if_neg hl]
    by_cases hr : r ≥ r'
    · have hz := scaleS _ (r - r') v (l' - r' + 1) (by omega) (by omega) (by omega) hv
      rw [if_pos hr, sResize_ok (by omega) (by omega) (by omega) hv, ok_bind, resultRaw_pat rfl, ok_bind,
        sInt_ok htw hz, quantize_ext hr, overflowS_id os htw hz]
      rfl
    · have hr' : r < r' := Int.not_le.mp hr
      have hq := ediv_rangeS v (l - r + 1) (r' - r) (by omega) (by omega) hv
      rw [show l - r + 1 - (r' - r) = l - r' + 1 by omega] at hq
      have hq' : inRangeS (l' - r' + 1) _ := inRangeS_mono (by omega) hq
      have hd := roundInc_01 v (r' - r)
      simp only [if_neg hr, msbRest_pat (l - r + 1) v (r' - r) (l - r' + 1) (by omega) (by omega) (by omega),
        doRound_pat (l - r + 1) v (r' - r) (by omega) (by omega),
        sResize_ok (tw := l' - r' + 1) (by omega) (Int.le_refl 0) (by omega) hq, p2_zero, Int.mul_one,
        uAdd_pat htw, ok_bind]
      cases rs with
      | truncate =>
        dsimp only
        rw [finishS htw, quantize_trunc hr', wrapS_id htw hq', overflowS_id os htw hq']
      | round =>
        dsimp only
        rw [quantize_round hr']
        by_cases hc : os = .saturate ∧ l = l'
        · obtain ⟨hos, hll⟩ := hc
          subst hos hll
          rw [if_pos ⟨rfl, rfl⟩, sInt_ok htw hq, sInt_ok htw (hiS_range _), choose2_pat, finishS htw]
          refine congrArg Except.ok (satS _ (v / p2 (r' - r) + roundInc v (r' - r)) _ false _ htw ?_ ?_ ?_)
          · exact fun h => absurd h (by decide)
          · simp only [Bool.and_eq_true, bne_iff_ne, beq_iff_eq, ne_eq]
            omega
          · simp only [Bool.and_eq_true, bne_iff_ne, beq_iff_eq, ne_eq]
            unfold inRangeS at hq
            exact fun _ ho => ⟨rfl, by omega⟩
        · rw [if_neg hc, finishS htw]
          cases os with
          | wrap => rw [overflowS_wrap]
          | saturate =>
            have hne : l ≠ l' := fun h => hc ⟨rfl, h⟩
            have hle := p2_le (show l - r' + 1 ≤ l' - r' + 1 - 1 by omega)
            have hpp := p2_pred (l - r' + 1) (by omega)
            have hs : inRangeS (l' - r' + 1) (v / p2 (r' - r) + roundInc v (r' - r)) := by
              unfold inRangeS at hq ⊢
              omega
            rw [wrapS_id htw hs, overflowS_id _ htw hs]

/-- SFixed `_resize_overlapping` = spec, for all overlapping formats, styles and values -/
theorem resizeS1_spec {l r v l' r' : Int} {rs : Round} {os : Ovf} (hlr : r ≤ l) (hlr' : r' ≤ l')
    (hv : inRangeS (l - r + 1) v) (ho1 : r' ≤ l) (ho2 : r ≤ l') :
    resizeS1 l r v l' r' rs os = .ok (specResizeS r v l' r' rs os) := by
  unfold resizeS1
  by_cases hc : l = l' ∧ r = r'
  · obtain ⟨c1, c2⟩ := hc
    subst c1 c2
    unfold specResizeS
    rw [if_pos ⟨rfl, rfl⟩, mkS_ok (width_pos hlr) hv, quantize_ext (Int.le_refl r), Int.sub_self, p2_zero,
      Int.mul_one, overflowS_id os (width_pos hlr) hv]
    exact congrArg Except.ok (sInt_ok (width_pos hlr) hv)
  · rw [if_neg hc]
    exact resizeSCore_spec hv ⟨hlr, hlr', ho1, ho2⟩

/-- SFixed `resize_fn` = spec, for ALL formats (disjoint ones included), styles and values -/
theorem resizeS_spec {l r v l' r' : Int} {rs : Round} {os : Ovf} (hlr : r ≤ l) (hlr' : r' ≤ l')
    (hv : inRangeS (l - r + 1) v) :
    resizeS l r v l' r' rs os = .ok (specResizeS r v l' r' rs os) := by
  unfold resizeS
  by_cases hd : l < r' ∨ l' < r
  · rw [if_pos hd]
    dsimp only
    rcases hd with hd | hd
    · rw [Int.max_eq_right (show l ≤ r' by omega), Int.min_eq_left (show r ≤ l' by omega),
        ctorFixedS_covers hlr hv (by omega) (Int.le_refl _), ok_bind, Int.sub_self, p2_zero, Int.mul_one]
      exact resizeS1_spec (by omega) hlr'
        (inRangeS_mono (by omega) hv) (Int.le_refl _) (by omega)
    · rw [Int.max_eq_left (show r' ≤ l by omega), Int.min_eq_right (show l' ≤ r by omega),
        ctorFixedS_covers hlr hv (Int.le_refl _) (by omega), ok_bind,
        resizeS1_spec (by omega) hlr'
          (scaleS _ (r - l') v _ (by omega) (by omega) (by omega) hv) (by omega) (Int.le_refl _)]
      unfold specResizeS
      rw [quantize_scale r v l' r' rs hlr' (by omega)]
  · rw [if_neg hd]
    exact resizeS1_spec hlr hlr' hv (by omega) (by omega)

/-- extension branch of `resize_fn` (`l ≤ l'`, `r ≥ r'`): no bit is dropped, both styles are the identity -/
theorem resizeS_extend (l r v l' r' : Int) (rs : Round) (os : Ovf) (hlr : r ≤ l)
    (hv : inRangeS (l - r + 1) v) (hl : l ≤ l') (hr : r' ≤ r) :
    resizeS l r v l' r' rs os = .ok (v * p2 (r - r')) := by
  rw [resizeS_spec hlr (by omega) hv]
  unfold specResizeS
  rw [quantize_ext hr,
    overflowS_id os (by omega) (scaleS _ (r - r') v _ (by omega) (by omega) (by omega) hv)]

end CohdlVerif.C19
