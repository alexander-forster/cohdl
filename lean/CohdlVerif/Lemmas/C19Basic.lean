import CohdlVerif.Model.C19

/-!
  C19: arithmetic of powers of two and of the value ranges, and the bit vector operations of the model where they
  do not raise.  Every bit vector that occurs is `pat n x`, the `n`-bit pattern of an integer `x` (unsigned reading
  `x % 2^n`, signed reading `wrapS n x`); each operation is described by what it does to `x`.
-/

namespace CohdlVerif.C19

theorem p2_pos (k : Int) : 0 < p2 k := Int.pow_pos (by decide)

theorem p2_zero : p2 0 = 1 := rfl

theorem p2_one : p2 1 = 2 := rfl

theorem p2_add (a b : Int) (ha : 0 ≤ a) (hb : 0 ≤ b) : p2 (a + b) = p2 a * p2 b := by
  unfold p2
  rw [Int.toNat_add ha hb, Int.pow_add]

theorem p2_split (a c : Int) (hc : 0 ≤ c) (hca : c ≤ a) : p2 a = p2 c * p2 (a - c) := by
  rw [← p2_add c (a - c) hc (by omega), show c + (a - c) = a by omega]

theorem p2_pred (w : Int) (hw : 1 ≤ w) : p2 w = 2 * p2 (w - 1) :=
  p2_split w 1 (by omega) hw

theorem p2_cast (k : Int) : ((2 ^ k.toNat : Nat) : Int) = p2 k :=
  Int.natCast_pow 2 _

theorem p2_le {a b : Int} (hab : a ≤ b) : p2 a ≤ p2 b := by
  rw [← p2_cast a, ← p2_cast b]
  exact Int.ofNat_le.mpr (Nat.pow_le_pow_right (by decide) (Int.toNat_le_toNat hab))

theorem mul_bounds {a H lo hi : Int} (hH : 0 < H) (h1 : lo ≤ a) (h2 : a < hi) : lo * H ≤ a * H ∧ a * H < hi * H :=
  ⟨Int.mul_le_mul_of_nonneg_right h1 (Int.le_of_lt hH), Int.mul_lt_mul_of_pos_right h2 hH⟩

theorem ediv_bounds {a H lo hi : Int} (hH : 0 < H) (h1 : lo * H ≤ a) (h2 : a < hi * H) :
    lo ≤ a / H ∧ a / H < hi :=
  ⟨(Int.le_ediv_iff_mul_le hH).mpr h1, (Int.ediv_lt_iff_lt_mul hH).mpr h2⟩

theorem inRangeS_mono {w w' v : Int} (hww : w ≤ w') (h : inRangeS w v) : inRangeS w' v := by
  have := p2_le (show w - 1 ≤ w' - 1 by omega)
  unfold inRangeS at *
  omega

theorem inRangeU_mono {w w' v : Int} (hww : w ≤ w') (h : inRangeU w v) : inRangeU w' v := by
  have := p2_le hww
  unfold inRangeU at *
  omega

theorem scaleS (w z v n : Int) (hw : 1 ≤ w) (hz : 0 ≤ z) (hn : w + z ≤ n) (h : inRangeS w v) :
    inRangeS n (v * p2 z) := by
  have hb := mul_bounds (p2_pos z) h.1 h.2
  refine inRangeS_mono hn ?_
  unfold inRangeS
  rwa [show w + z - 1 = w - 1 + z by omega, p2_add _ _ (by omega) hz, ← Int.neg_mul]

theorem scaleU (w z v n : Int) (hw : 0 ≤ w) (hz : 0 ≤ z) (hn : w + z ≤ n) (h : inRangeU w v) :
    inRangeU n (v * p2 z) := by
  have hb := mul_bounds (p2_pos z) h.1 h.2
  refine inRangeU_mono hn ?_
  unfold inRangeU
  rwa [p2_add _ _ hw hz, ← Int.zero_mul (p2 z)]

theorem ediv_rangeS (v w c : Int) (hc : 0 ≤ c) (hcw : c < w) (h : inRangeS w v) : inRangeS (w - c) (v / p2 c) := by
  unfold inRangeS at h
  rw [p2_split (w - 1) c hc (by omega), Int.mul_comm, show w - 1 - c = w - c - 1 by omega, ← Int.neg_mul] at h
  exact ediv_bounds (p2_pos c) h.1 h.2

theorem ediv_rangeU (v w c : Int) (hc : 0 ≤ c) (hcw : c ≤ w) (h : inRangeU w v) : inRangeU (w - c) (v / p2 c) := by
  unfold inRangeU at h
  rw [p2_split w c hc hcw, Int.mul_comm, ← Int.zero_mul (p2 c)] at h
  exact ediv_bounds (p2_pos c) h.1 h.2

theorem width_pos {l r : Int} (h : r ≤ l) : 1 ≤ l - r + 1 := by
  omega

theorem loS_range (tw : Int) : inRangeS tw (-(p2 (tw - 1))) := by
  have := p2_pos (tw - 1)
  unfold inRangeS
  omega

theorem hiS_range (tw : Int) : inRangeS tw (p2 (tw - 1) - 1) := by
  have := p2_pos (tw - 1)
  unfold inRangeS
  omega

theorem hiU_range (tw : Int) : inRangeU tw (p2 tw - 1) := by
  have := p2_pos tw
  unfold inRangeU
  omega

theorem emod_rangeU (x n : Int) : inRangeU n (x % p2 n) :=
  ⟨Int.emod_nonneg x (Int.ne_of_gt (p2_pos n)), Int.emod_lt_of_pos x (p2_pos n)⟩

theorem emod_mul_ediv (x k m : Int) (hk : 0 < k) : x % (k * m) / k = x / k % m := by
  rw [Int.emod_def, Int.emod_def, Int.mul_assoc, Int.sub_eq_add_neg, ← Int.mul_neg,
    Int.add_mul_ediv_left _ _ (Int.ne_of_gt hk), Int.ediv_ediv_of_nonneg (Int.le_of_lt hk)]
  rfl

theorem emod_emod_p2 (x a c : Int) (hc : 0 ≤ c) (hca : c ≤ a) : x % p2 a % p2 c = x % p2 c := by
  rw [p2_split a c hc hca]
  exact Int.emod_emod_of_dvd x (Int.dvd_mul_right _ _)

theorem emod_ediv_p2 (x a c : Int) (hc : 0 ≤ c) (hca : c ≤ a) : x % p2 a / p2 c = x / p2 c % p2 (a - c) := by
  rw [p2_split a c hc hca]
  exact emod_mul_ediv x _ _ (p2_pos c)

theorem emod_scale (x n z t : Int) (hn : 0 ≤ n) (hz : 0 ≤ z) (ht : t = n + z) :
    x * p2 z % p2 t = x % p2 n * p2 z := by
  subst ht
  rw [p2_add n z hn hz, Int.mul_comm x, Int.mul_comm (p2 n), Int.mul_emod_mul_of_pos _ _ (p2_pos z), Int.mul_comm]

theorem emod_split_p2 (x a c : Int) (hc : 0 ≤ c) (hca : c ≤ a) :
    x % p2 a = p2 c * (x / p2 c % p2 (a - c)) + x % p2 c := by
  rw [← emod_ediv_p2 x a c hc hca, ← emod_emod_p2 x a c hc hca]
  exact (Int.mul_ediv_add_emod _ _).symm

theorem emod_cases (v P : Int) (h1 : -P ≤ v) (h2 : v < P) : v % P = if 0 ≤ v then v else v + P := by
  split
  · exact Int.emod_eq_of_lt (by omega) h2
  · rw [← Int.add_emod_right, Int.emod_eq_of_lt (by omega) (by omega)]

/-- two's complement wrap of `x` into `n` bits -/
def wrapS (n x : Int) : Int := (x - loS n) % p2 n + loS n

theorem overflowS_wrap (tw q : Int) : overflowS tw q .wrap = wrapS tw q := rfl

theorem wrapS_range (n x : Int) (hn : 1 ≤ n) : inRangeS n (wrapS n x) := by
  have hp := p2_pred n hn
  unfold inRangeS wrapS loS
  have h := emod_rangeU (x - -(p2 (n - 1))) n
  unfold inRangeU at h
  omega

theorem wrapS_emod (n x : Int) : wrapS n x % p2 n = x % p2 n := by
  unfold wrapS
  rw [Int.emod_add_emod, Int.sub_add_cancel]

theorem wrapS_id {n x : Int} (hn : 1 ≤ n) (h : inRangeS n x) : wrapS n x = x := by
  have hp := p2_pred n hn
  unfold inRangeS at h
  unfold wrapS loS
  rw [Int.emod_eq_of_lt (by omega) (by omega)]
  omega

theorem wrapS_scale (n z x : Int) (hn : 1 ≤ n) (hz : 0 ≤ z) : wrapS (n + z) (x * p2 z) = wrapS n x * p2 z := by
  unfold wrapS loS
  rw [show n + z - 1 = n - 1 + z by omega, p2_add (n - 1) z (by omega) hz, p2_add n z (by omega) hz,
    ← Int.neg_mul, ← Int.sub_mul, Int.mul_comm _ (p2 z), Int.mul_comm (p2 n),
    Int.mul_emod_mul_of_pos _ _ (p2_pos z), Int.mul_comm (p2 z), ← Int.add_mul]

def pat (n x : Int) : BV := ⟨n, x % p2 n⟩

theorem ok_bind {α β : Type} (a : α) (f : α → Except Err β) : (Except.ok a >>= f) = f a := rfl

theorem pat_w (n x : Int) : (pat n x).w = n := rfl

theorem pat_u (n x : Int) : (pat n x).u = x % p2 n := rfl

theorem pat_emod (n x : Int) : pat n (x % p2 n) = pat n x := by
  unfold pat
  rw [Int.emod_emod]

theorem pat_wrapS (n x : Int) : pat n (wrapS n x) = pat n x := by
  unfold pat
  rw [wrapS_emod]

theorem sInt_pat (n x : Int) (hn : 1 ≤ n) : (pat n x).sInt = wrapS n x := by
  have hr := wrapS_range n x hn
  have hp := p2_pred n hn
  unfold inRangeS at hr
  have hc := emod_cases (wrapS n x) (p2 n) (by omega) (by omega)
  unfold BV.sInt pat
  rw [← wrapS_emod n x, hc]
  dsimp only
  omega

theorem mkS_ok {w v : Int} (hw : 1 ≤ w) (h : inRangeS w v) : mkS w v = .ok (pat w v) := by
  unfold mkS
  rw [if_neg (by omega)]
  exact if_pos h

theorem mkU_ok {w v : Int} (hw : 1 ≤ w) (h : inRangeU w v) : mkU w v = .ok (pat w v) := by
  unfold mkU pat
  rw [if_neg (by omega), Int.emod_eq_of_lt h.1 h.2]
  exact if_pos h

theorem sFromS_pat (tw n x : Int) (hn : 1 ≤ n) (hnt : n ≤ tw) : sFromS tw (pat n x) = .ok (pat tw (wrapS n x)) := by
  unfold sFromS
  rw [if_pos (show (pat n x).w ≤ tw from hnt), sInt_pat n x hn]
  exact mkS_ok (by omega) (inRangeS_mono hnt (wrapS_range n x hn))

theorem uFromU_pat (tw n x : Int) (hn : 1 ≤ n) (hnt : n ≤ tw) : uFromU tw (pat n x) = .ok (pat tw (x % p2 n)) := by
  unfold uFromU
  rw [if_pos (show (pat n x).w ≤ tw from hnt)]
  exact mkU_ok (by omega) (inRangeU_mono hnt (emod_rangeU x n))

theorem sResize_pat {n x tw z : Int} (hn : 1 ≤ n) (hz : 0 ≤ z) (hnz : n + z ≤ tw) :
    sResize (pat n x) tw z = .ok (pat tw (wrapS n x * p2 z)) := by
  unfold sResize
  rw [if_neg (by rw [pat_w]; omega), if_neg (by omega), sInt_pat n x hn]
  exact mkS_ok (by omega) (scaleS n z _ tw hn hz hnz (wrapS_range n x hn))

theorem uResize_pat {n x tw z : Int} (hn : 1 ≤ n) (hz : 0 ≤ z) (hnz : n + z ≤ tw) :
    uResize (pat n x) tw z = .ok (pat tw (x % p2 n * p2 z)) := by
  unfold uResize
  rw [if_neg (by rw [pat_w]; omega), if_neg (by omega)]
  exact mkU_ok (by omega) (scaleU n z _ tw (by omega) hz hnz (emod_rangeU x n))

theorem sInt_ok {n v : Int} (hn : 1 ≤ n) (h : inRangeS n v) : (pat n v).sInt = v := by
  rw [sInt_pat n v hn, wrapS_id hn h]

theorem u_ok {n v : Int} (h : inRangeU n v) : (pat n v).u = v :=
  Int.emod_eq_of_lt h.1 h.2

theorem sFromS_ok {tw n v : Int} (hn : 1 ≤ n) (hnt : n ≤ tw) (h : inRangeS n v) :
    sFromS tw (pat n v) = .ok (pat tw v) := by
  rw [sFromS_pat tw n v hn hnt, wrapS_id hn h]

theorem uFromU_ok {tw n v : Int} (hn : 1 ≤ n) (hnt : n ≤ tw) (h : inRangeU n v) :
    uFromU tw (pat n v) = .ok (pat tw v) := by
  rw [uFromU_pat tw n v hn hnt, Int.emod_eq_of_lt h.1 h.2]

theorem sResize_ok {n v tw z : Int} (hn : 1 ≤ n) (hz : 0 ≤ z) (hnz : n + z ≤ tw) (h : inRangeS n v) :
    sResize (pat n v) tw z = .ok (pat tw (v * p2 z)) := by
  rw [sResize_pat hn hz hnz, wrapS_id hn h]

theorem uResize_ok {n v tw z : Int} (hn : 1 ≤ n) (hz : 0 ≤ z) (hnz : n + z ≤ tw) (h : inRangeU n v) :
    uResize (pat n v) tw z = .ok (pat tw (v * p2 z)) := by
  rw [uResize_pat hn hz hnz, Int.emod_eq_of_lt h.1 h.2]

theorem resultRaw_pat {tw n x : Int} (h : n = tw) : resultRaw tw (pat n x) = .ok (pat tw x) := by
  subst h
  exact if_pos rfl

theorem lsbRest_pat (w x rest n : Int) (hn : n = w - rest) (h1 : 1 ≤ n) (h2 : n ≤ w) :
    (pat w x).lsbRest rest = .ok (pat n x) := by
  subst hn
  unfold BV.lsbRest BV.right pat
  dsimp only
  rw [if_pos ⟨h1, h2⟩, emod_emod_p2 x w _ (by omega) h2]

theorem left_pat (w x n s : Int) (hs : s = w - n) (h1 : 1 ≤ n) (h2 : n ≤ w) :
    (pat w x).left n = .ok (pat n (x / p2 s)) := by
  subst hs
  unfold BV.left pat
  dsimp only
  rw [if_pos ⟨h1, h2⟩, emod_ediv_p2 x w _ (by omega) (by omega), Int.sub_sub_self]

theorem msbRest_pat (w x c n : Int) (hn : n = w - c) (h1 : 1 ≤ n) (h2 : n ≤ w) :
    (pat w x).msbRest c = .ok (pat n (x / p2 c)) := by
  subst hn
  exact left_pat w x (w - c) c (by omega) h1 h2

theorem uAdd_pat {n x d : Int} (hn : 1 ≤ n) : uAdd (pat n x) ⟨1, d⟩ = pat n (x + d) := by
  unfold uAdd pat
  dsimp only
  rw [Int.max_eq_left hn, Int.emod_add_emod]

theorem choose2_pat (c1 c2 : Bool) (n a b d : Int) :
    choose2 c1 (pat n a) c2 (pat n b) (pat n d) = pat n (if c1 then a else if c2 then b else d) := by
  cases c1 <;> cases c2 <;> rfl

end CohdlVerif.C19
