import CohdlVerif.Model.C08

/-! C08 - the compiler's analysis `detect` (mirror, fixed code) implies the certificate `safe` -/
namespace CohdlVerif.C08

theorem mem_inter {a b : List Nat} {t : Nat} : t ∈ inter a b ↔ t ∈ a ∧ t ∈ b := by
  simp [inter, List.mem_filter]

theorem run_alt (a b k : TCode) (cs : List Bool) (W : List Nat) :
    run (.alt a b k) cs W = (run (bif cs.headD false then a else b) cs.tail W).bind (fun r => run k r.2 r.1) := by
  cases cs with
  | nil => rfl
  | cons c cs => cases c <;> rfl

theorem safe_mono {c : TCode} {D D' : List Nat} (h : safe c D = some D') : ∀ t ∈ D, t ∈ D' := by
  intro t ht
  induction c generalizing D D' with
  | nil => exact Option.some.inj h ▸ ht
  | write x k ih => exact ih h (List.mem_cons_of_mem _ ht)
  | read x k ih =>
    simp only [safe] at h
    split at h
    · exact ih h ht
    · cases h
  | alt a b k iha ihb ihk =>
    simp only [safe] at h
    split at h
    · next Da Db ha hb => exact ihk h (mem_inter.mpr ⟨iha ha ht, ihb hb ht⟩)
    · cases h

/-- what `detect` takes as written on every path so far: a read of anything else is refused -/
def DSt.defined (st : DSt) (t : Nat) : Prop := t ∈ st.written ∧ t ∉ st.invalid

/-- Whatever `detect` accepts, `safe` accepts, from any `D` that holds what `detect` takes as defined.  The block's local
    set `l` is written on every path through it, and a block defines nothing but its local set. -/
theorem detect_safe (c : TCode) (st : DSt) (l : List Nat) (st' : DSt) (D : List Nat)
    (h : detect c st = some (l, st')) (hD : ∀ t, st.defined t → t ∈ D) :
    ∃ D', safe c D = some D' ∧ (∀ t ∈ l, t ∈ D') ∧ ∀ t, st'.defined t → st.defined t ∨ t ∈ l := by
  induction c generalizing st l st' D with
  | nil =>
    obtain ⟨rfl, rfl⟩ : [] = l ∧ st = st' := by simpa [detect] using h
    exact ⟨D, rfl, fun _ ht => (nomatch ht), fun _ ht => Or.inl ht⟩
  | write x k ih =>
    simp only [detect] at h
    split at h
    · cases h
    · next lk stk hk =>
      obtain ⟨rfl, rfl⟩ : x :: lk = l ∧ stk = st' := by simpa using h
      have h0 : ∀ t, DSt.defined ⟨st.invalid.filter (· ≠ x), x :: st.written⟩ t → t = x ∨ st.defined t := by
        intro t ⟨hw, hi⟩
        by_cases hx : t = x
        · exact Or.inl hx
        · exact Or.inr ⟨(List.mem_cons.mp hw).resolve_left hx, fun hin => hi (by simp [List.mem_filter, hin, hx])⟩
      obtain ⟨D', hs, hl, hF⟩ := ih _ _ _ (x :: D) hk (fun t ht =>
        (h0 t ht).elim (fun e => e ▸ List.mem_cons_self) (fun h => List.mem_cons_of_mem _ (hD t h)))
      refine ⟨D', hs, fun t ht => ?_, fun t ht => ?_⟩
      · rcases List.mem_cons.mp ht with rfl | ht
        · exact safe_mono hs _ List.mem_cons_self
        · exact hl t ht
      · rcases hF t ht with h1 | h1
        · exact (h0 t h1).elim (fun e => Or.inr (e ▸ List.mem_cons_self)) Or.inl
        · exact Or.inr (List.mem_cons_of_mem _ h1)
  | read x k ih =>
    simp only [detect] at h
    split at h
    · cases h
    · next hni =>
      split at h
      · next hw =>
        obtain ⟨D', hs, hl, hF⟩ := ih _ _ _ D h hD
        exact ⟨D', by simp only [safe, hD x ⟨hw, hni⟩, if_true, hs], hl, hF⟩
      · cases h
  | alt a b k iha ihb ihk =>
    simp only [detect] at h
    split at h
    · cases h
    · next la st1 ha =>
      split at h
      · cases h
      · next lb st2 hb =>
        split at h
        · cases h
        · next lk st3 hk =>
          obtain ⟨rfl, rfl⟩ : inter la lb ++ lk = l ∧ st3 = st' := by simpa using h
          obtain ⟨Da, hsa, hla, hFa⟩ := iha st la st1 D ha hD
          -- the second branch starts with `la` marked invalid: what is still defined was defined before the alternative
          have h1 : ∀ t, DSt.defined ⟨la ++ st1.invalid, st1.written⟩ t → st.defined t := by
            intro t ⟨hw, hi⟩
            rw [List.mem_append, not_or] at hi
            exact (hFa t ⟨hw, hi.2⟩).resolve_right hi.1
          obtain ⟨Db, hsb, hlb, hFb⟩ := ihb _ lb st2 D hb (fun t ht => hD t (h1 t ht))
          -- after both branches: defined in both, or defined before the alternative
          have h2 : ∀ t, DSt.defined ⟨(lb ++ st2.invalid).filter (· ∉ inter la lb), st2.written⟩ t →
              t ∈ inter la lb ∨ st.defined t := by
            intro t ⟨hw, hi⟩
            by_cases hal : t ∈ inter la lb
            · exact Or.inl hal
            · have hi' : t ∉ lb ∧ t ∉ st2.invalid := by simpa [List.mem_filter, hal] using hi
              exact Or.inr (h1 t ((hFb t ⟨hw, hi'.2⟩).resolve_right hi'.1))
          have hal : ∀ t ∈ inter la lb, t ∈ inter Da Db := fun t ht =>
            mem_inter.mpr ⟨hla t (mem_inter.mp ht).1, hlb t (mem_inter.mp ht).2⟩
          obtain ⟨D', hsk, hlk, hFk⟩ := ihk _ lk st3 (inter Da Db) hk (fun t ht => (h2 t ht).elim (hal t)
            (fun h => mem_inter.mpr ⟨safe_mono hsa t (hD t h), safe_mono hsb t (hD t h)⟩))
          refine ⟨D', by simp only [safe, hsa, hsb, hsk], fun t ht => ?_, fun t ht => ?_⟩
          · rcases List.mem_append.mp ht with ht | ht
            · exact safe_mono hsk t (hal t ht)
            · exact hlk t ht
          · rcases hFk t ht with h3 | h3
            · exact (h2 t h3).elim (fun h => Or.inr (List.mem_append_left _ h)) Or.inl
            · exact Or.inr (List.mem_append_right _ h3)

end CohdlVerif.C08
