import CohdlVerif.Lemmas.C19Arith
import CohdlVerif.Lemmas.C19Round

/-! C19: UFixed `resize_fn` computes `specResizeU`, along the same lines as the signed case; the result is read
    off a pattern as `x % 2^tw`. -/

namespace CohdlVerif.C19

theorem sat_flagU (w v o m : Int) (hv : inRangeU w v) (ho : 0 ≤ o) (hm0 : 0 ≤ m) (hm : m = w - o) :
    (pat o (v / p2 m)).any = decide (p2 m ≤ v) := by
  have hq := ediv_rangeU v w m hm0 (by omega) hv
  rw [show w - m = o by omega] at hq
  have h1 : 1 ≤ v / p2 m ↔ p2 m ≤ v := by rw [Int.le_ediv_iff_mul_le (p2_pos m), Int.one_mul]
  unfold BV.any
  rw [u_ok hq, Bool.eq_iff_iff]
  simp only [bne_iff_ne, ne_eq, decide_eq_true_eq]
  unfold inRangeU at hq
  omega

theorem not_inv_any (n q : Int) : (!(pat n q).inv.any) = decide (q % p2 n = p2 n - 1) := by
  unfold BV.inv BV.any pat
  dsimp only
  rw [Bool.eq_iff_iff]
  simp only [Bool.not_eq_true', bne_eq_false_iff_eq, decide_eq_true_eq]
  omega

theorem finishU {tw x : Int} (htw : 1 ≤ tw) :
    (do let y ← uFromU tw (pat tw x); let y ← resultRaw tw y; pure y.u) = .ok (x % p2 tw) := by
  rw [uFromU_pat tw tw x htw (Int.le_refl _), pat_emod, ok_bind, resultRaw_pat rfl, ok_bind]
  rfl

theorem satU (tw x d : Int) (o : Bool) (ho : o → p2 tw - 1 ≤ x) (hd : ¬ o → d = x ∧ 0 ≤ x ∧ x ≤ p2 tw - 1) :
    (if o then p2 tw - 1 else if false then p2 tw - 1 else d) % p2 tw = overflowU tw x .saturate := by
  have hp := p2_pos tw
  have hlh : 0 ≤ p2 tw - 1 := by omega
  have hr := clamp_range 0 (p2 tw - 1) x hlh
  have hc : (if o then p2 tw - 1 else if false then p2 tw - 1 else d) = clamp 0 (p2 tw - 1) x :=
    clamp_flags 0 _ x d false o hlh (fun h => absurd h (by decide)) (fun _ => ho) (fun _ => hd)
  rw [hc]
  exact Int.emod_eq_of_lt hr.1 (by omega)

theorem resizeUCore_spec {l r v l' r' : Int} {rs : Round} {os : Ovf} (hv : inRangeU (l - r + 1) v)
    (hf : r ≤ l ∧ r' ≤ l' ∧ r' ≤ l ∧ r ≤ l') :
    resizeUCore l r v l' r' rs os = .ok (specResizeU r v l' r' rs os) := by
  obtain ⟨hlr, hlr', ho1, ho2⟩ := hf
  have htw := width_pos hlr'
  unfold resizeUCore specResizeU
  dsimp only
  rw [mkU_ok (width_pos hlr) hv, mkU_ok htw (hiU_range _)]
  simp only [ok_bind]
  by_cases hl : l > l'
  · -- what several branches share: the cut on the left, and the overflow flag of SATURATE
    simp only [if_pos hl, lsbRest_pat (l - r + 1) v (l - l') (l' - r + 1) (by omega) (by omega) (by omega),
      left_pat (l - r + 1) v (l - l') (l' - r + 1) (by omega) (by omega) (by omega),
      sat_flagU (l - r + 1) v (l - l') (l' - r + 1) hv (by omega) (by omega) (by omega), ok_bind]
    by_cases hr : r ≥ r'
    · simp only [if_pos hr, if_neg (show ¬ (pat (l - r + 1) v).w ≤ l - l' by rw [pat_w]; omega),
        quantize_ext hr]
      cases os with
      | wrap =>
        dsimp only
        rw [pat_w, uResize_pat (by omega) (by omega) (Int.le_refl _), ok_bind, resultRaw_pat (by omega),
          ok_bind, pat_u, ← emod_scale v _ _ (l' - r' + 1) (by omega) (by omega) (by omega), Int.emod_emod]
        rfl
      | saturate =>
        dsimp only
        obtain ⟨-, h2⟩ := thr_mul v (l' - r + 1) (r - r') (l' - r' + 1) (by omega) (by omega) (by omega)
        rw [uResize_pat (by omega) (by omega) (by omega), ok_bind, choose2_pat, finishU htw]
        refine congrArg Except.ok (satU _ (v * p2 (r - r')) _ _ ?_ ?_)
        all_goals simp only [decide_eq_true_eq]
        · omega
        · intro ho
          rw [Int.emod_eq_of_lt hv.1 (by omega)]
          exact ⟨rfl, Int.mul_nonneg hv.1 (Int.le_of_lt (p2_pos _)), by omega⟩
    · -- a cut on the right as well: the kept bits and the rounding increment
      have hr' : r < r' := Int.not_le.mp hr
      simp only [if_neg hr, msbRest_pat (l' - r + 1) v (r' - r) (l' - r' + 1) (by omega) (by omega) (by omega),
        doRound_pat (l - r + 1) v (r' - r) (by omega) (by omega), uAdd_pat htw, ok_bind]
      cases os with
      | wrap =>
        cases rs with
        | truncate =>
          dsimp only
          rw [finishU htw, quantize_trunc hr']
          rfl
        | round =>
          dsimp only
          rw [finishU htw, quantize_round hr']
          rfl
      | saturate =>
        obtain ⟨-, h2⟩ := thr_div v (l' - r + 1) (r' - r) (l' - r' + 1) (by omega) (by omega) (by omega)
        have h0 : 0 ≤ v / p2 (r' - r) := Int.ediv_nonneg hv.1 (Int.le_of_lt (p2_pos _))
        simp only [← h2]
        clear h2
        cases rs with
        | truncate =>
          dsimp only
          rw [choose2_pat, finishU htw, quantize_trunc hr']
          refine congrArg Except.ok (satU _ (v / p2 (r' - r)) _ _ ?_ ?_)
          all_goals simp only [decide_eq_true_eq, true_and]
          all_goals omega
        | round =>
          dsimp only
          rw [not_inv_any, choose2_pat, finishU htw, quantize_round hr']
          have hd := roundInc_01 v (r' - r)
          have hqm : ¬ p2 (l' - r' + 1) ≤ v / p2 (r' - r) →
              v / p2 (r' - r) % p2 (l' - r' + 1) = v / p2 (r' - r) :=
            fun h => Int.emod_eq_of_lt h0 (by omega)
          refine congrArg Except.ok (satU _ (v / p2 (r' - r) + roundInc v (r' - r)) _ _ ?_ ?_)
          all_goals simp only [decide_eq_true_eq, Bool.or_eq_true, true_and]
          all_goals omega
  · rw [if_neg hl]
    by_cases hr : r ≥ r'
    · have hz := scaleU _ (r - r') v (l' - r' + 1) (by omega) (by omega) (by omega) hv
      rw [if_pos hr, uResize_ok (by omega) (by omega) (by omega) hv, ok_bind, resultRaw_pat rfl, ok_bind,
        u_ok hz, quantize_ext hr, overflowU_id os hz]
      rfl
    · have hr' : r < r' := Int.not_le.mp hr
      have hq := ediv_rangeU v (l - r + 1) (r' - r) (by omega) (by omega) hv
      rw [show l - r + 1 - (r' - r) = l - r' + 1 by omega] at hq
      have hq' : inRangeU (l' - r' + 1) _ := inRangeU_mono (by omega) hq
      have hd := roundInc_01 v (r' - r)
      simp only [if_neg hr, msbRest_pat (l - r + 1) v (r' - r) (l - r' + 1) (by omega) (by omega) (by omega),
        doRound_pat (l - r + 1) v (r' - r) (by omega) (by omega),
        uResize_ok (tw := l' - r' + 1) (by omega) (Int.le_refl 0) (by omega) hq, p2_zero, Int.mul_one,
        uAdd_pat htw, ok_bind]
      cases rs with
      | truncate =>
        dsimp only
        rw [finishU htw, quantize_trunc hr', overflowU_id os hq', Int.emod_eq_of_lt hq'.1 hq'.2]
      | round =>
        dsimp only
        rw [quantize_round hr']
        by_cases hc : os = .saturate ∧ l = l'
        · obtain ⟨hos, hll⟩ := hc
          subst hos hll
          rw [if_pos ⟨rfl, rfl⟩, not_inv_any, Int.emod_eq_of_lt hq.1 hq.2, choose2_pat, finishU htw]
          unfold inRangeU at hq
          refine congrArg Except.ok (satU _ (v / p2 (r' - r) + roundInc v (r' - r)) _ _ ?_ ?_)
          all_goals simp only [Bool.and_eq_true, bne_iff_ne, ne_eq, decide_eq_true_eq, true_and]
          all_goals omega
        · rw [if_neg hc, finishU htw]
          cases os with
          | wrap => rfl
          | saturate =>
            have hne : l ≠ l' := fun h => hc ⟨rfl, h⟩
            have hle := p2_le (show l - r' + 1 ≤ l' - r' + 1 - 1 by omega)
            have hpp := p2_pred (l' - r' + 1) (by omega)
            have hs : inRangeU (l' - r' + 1) (v / p2 (r' - r) + roundInc v (r' - r)) := by
              unfold inRangeU at hq ⊢
              omega
            rw [Int.emod_eq_of_lt hs.1 hs.2, overflowU_id _ hs]

/-- UFixed `_resize_overlapping` = spec, for all overlapping formats, styles and values -/
theorem resizeU1_spec {l r v l' r' : Int} {rs : Round} {os : Ovf} (hlr : r ≤ l) (hlr' : r' ≤ l')
    (hv : inRangeU (l - r + 1) v) (ho1 : r' ≤ l) (ho2 : r ≤ l') :
    resizeU1 l r v l' r' rs os = .ok (specResizeU r v l' r' rs os) := by
  unfold resizeU1
  by_cases hc : l = l' ∧ r = r'
  · obtain ⟨c1, c2⟩ := hc
    subst c1 c2
    unfold specResizeU
    rw [if_pos ⟨rfl, rfl⟩, mkU_ok (width_pos hlr) hv, quantize_ext (Int.le_refl r), Int.sub_self, p2_zero,
      Int.mul_one, overflowU_id os hv]
    exact congrArg Except.ok (u_ok hv)
  · rw [if_neg hc]
    exact resizeUCore_spec hv ⟨hlr, hlr', ho1, ho2⟩

/-- UFixed `resize_fn` = spec, for ALL formats (disjoint ones included), styles and values -/
theorem resizeU_spec {l r v l' r' : Int} {rs : Round} {os : Ovf} (hlr : r ≤ l) (hlr' : r' ≤ l')
    (hv : inRangeU (l - r + 1) v) :
    resizeU l r v l' r' rs os = .ok (specResizeU r v l' r' rs os) := by
  unfold resizeU
  by_cases hd : l < r' ∨ l' < r
  · rw [if_pos hd]
    dsimp only
    rcases hd with hd | hd
    · rw [Int.max_eq_right (show l ≤ r' by omega), Int.min_eq_left (show r ≤ l' by omega),
        ctorFixedU_covers hlr hv (by omega) (Int.le_refl _), ok_bind, Int.sub_self, p2_zero, Int.mul_one]
      exact resizeU1_spec (by omega) hlr'
        (inRangeU_mono (by omega) hv) (Int.le_refl _) (by omega)
    · rw [Int.max_eq_left (show r' ≤ l by omega), Int.min_eq_right (show l' ≤ r by omega),
        ctorFixedU_covers hlr hv (Int.le_refl _) (by omega), ok_bind,
        resizeU1_spec (by omega) hlr'
          (scaleU _ (r - l') v _ (by omega) (by omega) (by omega) hv) (by omega) (Int.le_refl _)]
      unfold specResizeU
      rw [quantize_scale r v l' r' rs hlr' (by omega)]
  · rw [if_neg hd]
    exact resizeU1_spec hlr hlr' hv (by omega) (by omega)

end CohdlVerif.C19
