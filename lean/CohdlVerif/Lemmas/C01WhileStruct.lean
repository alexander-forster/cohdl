import CohdlVerif.Lemmas.C01Pending

/-! C01 - `while`: pending blocks through the `continue` loop and the loop as a whole; the collected structural
  facts `WBody` (up to the end of the body), `WCtx`, `WPieces`. -/
namespace CohdlVerif.C01

theorem contLoop_fpost (c : Option Nat) (body : Nat) (s0 : CSt) (O0 : List Nat) (hl0 : Hlt s0 O0) (Z : List Nat) :
    ∀ (cbs : List Nat) (s : CSt) (acc : List Nat), Step s0 O0 s (cbs ++ (acc ++ Z)) → FPost s0 (cbs ++ (acc ++ Z)) s →
      FPost s0 ((contLoop c body cbs s acc).1 ++ Z) (contLoop c body cbs s acc).2 ∧
      Step s0 O0 (contLoop c body cbs s acc).2 ((contLoop c body cbs s acc).1 ++ Z) := by
  intro cbs
  induction cbs with
  | nil => intro s acc hS hP; exact ⟨hP, hS⟩
  | cons cb cbs ih =>
    intro s acc hS hP
    obtain ⟨T, hnn, hnew, _⟩ := contIter c body cb s ((hS.hlt hl0).1 cb (List.mem_cons_self ..))
    rw [contLoop_cons]
    obtain ⟨S2, P2⟩ := FPost.extend (O1 := [cb]) hl0 hS hP T
      (FPost.of_same (contStep_sameLists c body cb s) hnn (fun y hy => by rw [(hnew y hy).2]))
    have hperm : ∀ nb : List Nat, (cbs ++ ((acc ++ nb) ++ Z)).Perm (nb ++ (cbs ++ (acc ++ Z))) := fun nb => by
      rw [List.append_assoc acc]
      exact (List.Perm.append_left _ (List.perm_append_comm_assoc acc nb Z)).trans
        (List.perm_append_comm_assoc cbs nb (acc ++ Z))
    obtain ⟨S3, P3⟩ := FPost.perm S2 P2 (hperm _)
    exact ih _ _ S3 P3

theorem wS1_hb_front (O : List Nat) (s : CSt) (hi : Inv s O) : ((wS1 O s).heap (wHb O s)).front = [] := by
  have hne :=
    Nat.ne_of_lt (((wS0_step O s hi.hlt hi.start).1.hlt hi.hlt).1 (wHb O s) (List.mem_cons_self ..))
  rw [wS1, CSt.newBlock_heap_old _ _ hne]
  cases hst : s.atStart with
  | true =>
    rw [wS0, hst, if_pos rfl, append_front, enterState_start O s hst, wHb, enterState_start O s hst, atStart_heap0 hst]
  | false =>
    have e := enter_nostart_facts hi hst
    rw [wS0, hst, if_neg Bool.false_ne_true, wHb, e.2.1, e.2.2.2.1]

/-- the stages of a loop up to the restored lists; nothing here depends on the loop condition -/
structure WBody (b : Stmt) (O : List Nat) (s : CSt) : Prop where
  A1 : (wS1 O s).atStart = false
  hi1 : Inv (wS1c O s) [wBody O s]
  body0 : (wS1 O s).heap (wBody O s) = {}
  next1 : (wS1 O s).next = wBody O s + 1
  hbl : wHb O s < wBody O s
  sbl : s.next ≤ wBody O s
  hbf : ((wS1 O s).heap (wHb O s)).front = []
  B : Step (wS1c O s) [wBody O s] (wR b O s).2 (wR b O s).1
  FB : FPost (wS1c O s) (wR b O s).1 (wR b O s).2
  brk_eq : dB (wS1c O s) (wR b O s).2 = (wS3 b O s).brk
  cont_eq : dC (wS1c O s) (wR b O s).2 = (wS3 b O s).cont
  ret_eq : dR (wS1c O s) (wR b O s).2 = dR s (wS4 b O s)
  h3 : ∀ o' ∈ (wR b O s).1, (wS4 b O s).heap o' = { (wR b O s).2.heap o' with front := [wIdx O s] }
  h3' : ∀ y, y ∉ (wR b O s).1 → (wS4 b O s).heap y = (wR b O s).2.heap y
  next4 : (wS4 b O s).next = (wR b O s).2.next
  root4 : (wS4 b O s).root = (wR b O s).2.root
  L4 : (wS4 b O s).brk = s.brk ∧ (wS4 b O s).cont = s.cont

theorem wbody (b : Stmt) (c : Bool) (hb : CSpec (compile b) true c) (fb : FwdG (compile b) true)
    (O : List Nat) (s : CSt) (hi : Inv s O) : WBody b O s := by
  obtain ⟨T1, hA1, eb', ec, er⟩ := wS1_step O s hi.hlt hi.start
  have hl1 := T1.hlt hi.hlt
  have body0 : (wS1 O s).heap (wBody O s) = {} := CSt.newBlock_heap_new _ _
  have hi1 := Inv.single (s1 := wS1c O s) (hl1.1 _ (List.mem_cons_self ..)) hl1.2 hA1 (congrArg Blk.front body0)
  have FB : FPost (wS1c O s) (wR b O s).1 (wR b O s).2 := fb _ _ hi1 (fun _ => hA1)
  have T0 := (wS0_step O s hi.hlt hi.start).1
  have e3 := CSt.addfrontAll_sameLists (wIdx O s) (wR b O s).1 (wR b O s).2
  refine ⟨hA1, hi1, body0, rfl, (T0.hlt hi.hlt).1 (wHb O s) (List.mem_cons_self ..), T0.next_le, wS1_hb_front O s hi,
    hb.step hi1 (fun _ => hA1), FB, e3.1.symm, e3.2.1.symm, ?_, fun o' ho' => ?_,
    fun y hy => addfrontAll_heap_notin _ y _ _ hy, CSt.addfrontAll_next _ _ _, CSt.addfrontAll_root _ _ _, eb', ec⟩
  · show (wR b O s).2.ret.drop (wS1 O s).ret.length = (wS4 b O s).ret.drop s.ret.length
    rw [show (wS4 b O s).ret = (wR b O s).2.ret from e3.2.2, er]
  · show (CSt.addfrontAll _ _ _).heap o' = _
    rw [addfrontAll_heap_nodup _ o' _ _ FB.nodup_open ho', FB.2 o' (mem_Outs.mpr (Or.inl ho'))]

/-- after the body of a loop, with the lists of the enclosing loop restored: pending are the `continue` blocks, the
    `break` blocks and the head block -/
theorem while_fpost4 (b : Stmt) (c : Bool) (hb : CSpec (compile b) true c) (O : List Nat) (s : CSt) (hi : Inv s O)
    (X : WBody b O s) :
    FPost s ((wS3 b O s).cont ++ ((wS3 b O s).brk ++ [wHb O s])) (wS4 b O s) ∧
    Step s O (wS4 b O s) ((wS3 b O s).cont ++ ((wS3 b O s).brk ++ [wHb O s])) := by
  obtain ⟨T1, _⟩ := wS1_step O s hi.hlt hi.start
  have hl1 := T1.hlt hi.hlt
  have FX := FPost.frame (X := [wHb O s]) X.B X.FB (by simp) (fun x hx => by
    rw [List.mem_singleton.mp hx]
    exact ⟨hl1.1 _ (by simp), fun hm => Nat.ne_of_lt X.hbl (List.mem_singleton.mp hm), X.hbf⟩)
  have hb4 : dB s (wS4 b O s) = [] := by rw [dB, X.L4.1, List.drop_length]
  have hc4 : dC s (wS4 b O s) = [] := by rw [dC, X.L4.2, List.drop_length]
  obtain ⟨S, hC, hB, _⟩ := wS4_step b c hb O s hi.hlt hi.start
  -- the pending blocks are those of the body without its open blocks, which now have their back edge
  have hcnt : ∀ a, List.count a (Outs (wS1c O s) ((wR b O s).1 ++ [wHb O s]) (wR b O s).2) =
      List.count a (wR b O s).1 + List.count a (Outs s ((wS3 b O s).cont ++ ((wS3 b O s).brk ++ [wHb O s])) (wS4 b O s)) := by
    intro a
    simp only [Outs, X.brk_eq, X.cont_eq, X.ret_eq, hb4, hc4, List.count_append, List.count_nil]
    omega
  have hle := fun a => hcnt a ▸ List.nodup_iff_count.mp FX.1 a
  refine ⟨⟨List.nodup_iff_count.mpr (fun a => by have := hle a; omega), fun y hy => ?_⟩, ?_⟩
  · have hp := List.count_pos_iff.mpr hy
    have hno : y ∉ (wR b O s).1 := fun hm => by have := List.count_pos_iff.mpr hm; have := hle y; omega
    rw [X.h3' y hno]
    exact FX.2 y (List.count_pos_iff.mp (by rw [hcnt y]; omega))
  · refine T1.trans hi.hlt.1 (S.widen (by simp) hl1.1 (fun o ho => ?_))
    simp only [List.mem_append, List.mem_singleton] at ho
    rcases ho with h | h | h
    · exact Or.inr (hC o h)
    · exact Or.inr (hB o h)
    · exact Or.inl (by simp [h])

/-- after the `continue` loop: pending are the head block and the blocks that leave the loop -/
theorem while_fpostCl (cc : Option Nat) (b : Stmt) (c : Bool) (hb : CSpec (compile b) true c)
    (O : List Nat) (s : CSt) (hi : Inv s O) (X : WBody b O s) :
    FPost s (wHb O s :: wRb cc b O s) (wCl cc b O s).2 ∧ Step s O (wCl cc b O s).2 (wHb O s :: wRb cc b O s) ∧
    (wCl cc b O s).2.atStart = false := by
  obtain ⟨P4, S4⟩ := while_fpost4 b c hb O s hi X
  obtain ⟨W, hA⟩ := wCl_step cc b c hb O s hi.hlt hi.start
  obtain ⟨P5, S5⟩ := contLoop_fpost cc (wBody O s) s O hi.hlt ((wS3 b O s).brk ++ [wHb O s])
    (wS3 b O s).cont (wS4 b O s) [] S4 P4
  have hperm : (wHb O s :: wRb cc b O s).Perm ((wCl cc b O s).1 ++ ((wS3 b O s).brk ++ [wHb O s])) := by
    rw [wRb, ← List.append_assoc]
    exact (List.perm_append_singleton _ _).symm
  exact ⟨(FPost.perm S5 P5 hperm).2, W, hA⟩

/-- the blocks open after the loop satisfy the invariant of the open blocks -/
theorem wSX_inv (cc : Option Nat) (b : Stmt) (O : List Nat) (s : CSt)
    (P : FPost s (wHb O s :: wRb cc b O s) (wCl cc b O s).2)
    (hlw : Hlt (wCl cc b O s).2 (wHb O s :: wRb cc b O s)) (hA : (wCl cc b O s).2.atStart = false) :
    Inv (wSX cc b O s) (wOk cc b O s) := by
  obtain ⟨X, _, hAx, _, fr1, _, okc⟩ := wSX_facts cc b O s hlw hA
  have hnR := (List.nodup_cons.mp P.nodup_open).2
  refine ⟨X.hlt hlw, fun h => (by rw [hAx] at h; cases h), ?_, ?_⟩
  · cases cc with
    | none => exact hnR
    | some c' =>
      refine List.nodup_cons.mpr ⟨fun h => ?_, hnR⟩
      have := hlw.1 _ (List.mem_cons_of_mem _ h); omega
  · intro o ho
    rcases okc o ho with h | ⟨_, h, _⟩
    · have hne : o ≠ wHb O s := fun e => (List.nodup_cons.mp P.nodup_open).1 (e ▸ h)
      rw [fr1 o hne (hlw.1 o (List.mem_cons_of_mem _ h))]
      exact P.2 o (mem_Outs.mpr (Or.inl (List.mem_cons_of_mem _ h)))
    · rw [h]

theorem fwd_while (cc : Option Nat) (b k : Stmt) (l c : Bool) (hb : CSpec (compile b) true c)
    (hk : CSpec (compile k) l c) (fb : FwdG (compile b) true) (fk : FwdG (compile k) l) :
    FwdG (compile (.while_ cc b k)) l := by
  intro O s hi _
  obtain ⟨P, W, hA⟩ := while_fpostCl cc b c hb O s hi (wbody b c hb fb O s hi)
  have hlw := W.hlt hi.hlt
  obtain ⟨X, hsl, hAx, _⟩ := wSX_facts cc b O s hlw hA
  have hix := wSX_inv cc b O s P hlw hA
  rw [compile_while]
  exact FPost.comp hi.hlt.1 (W.trans hi.hlt.1 X) (hk.step hix (fun _ => hAx))
    (FPost.comp hi.hlt.1 W X P (FPost.of_same hsl hix.nodup hix.front)) (fk _ _ hix (fun _ => hAx))

theorem contLoop_badMono (c : Option Nat) (body : Nat) : ∀ (cbs : List Nat) (s : CSt) (acc : List Nat),
    (contLoop c body cbs s acc).2.bad = false → s.bad = false := by
  intro cbs
  induction cbs with
  | nil => intro s acc h; exact h
  | cons cb cbs ih =>
    intro s acc h
    rw [contLoop_cons] at h
    exact contStep_bad c body cb s (ih _ _ h)

theorem contLoop_acc_sub (c : Option Nat) (body : Nat) : ∀ (cbs : List Nat) (s : CSt) (acc : List Nat) (y : Nat),
    y ∈ acc → y ∈ (contLoop c body cbs s acc).1 := by
  intro cbs
  induction cbs with
  | nil => intro s acc y h; exact h
  | cons cb cbs ih =>
    intro s acc y h
    rw [contLoop_cons]
    exact ih _ _ y (List.mem_append_left _ h)

theorem contLoop_effect (c : Option Nat) (body : Nat) :
    ∀ (cbs : List Nat) (s : CSt) (acc : List Nat), cbs.Nodup → (∀ cb ∈ cbs, cb < s.next) → (∀ a ∈ acc, a < s.next) →
      body < s.next → (contLoop c body cbs s acc).2.bad = false →
      (∀ o ∈ (contLoop c body cbs s acc).1, o ∈ acc ∨ (s.next ≤ o ∧ (contLoop c body cbs s acc).2.heap o = {})) ∧
      (∀ y, y < s.next → y ∉ cbs → (contLoop c body cbs s acc).2.heap y = s.heap y) ∧
      (∀ cb ∈ cbs, s.root cb ≠ s.root body ∧ ∃ it, (contLoop c body cbs s acc).2.heap cb =
          { s.heap cb with items := (s.heap cb).items ++ [it] } ∧
          ContItem c body (contLoop c body cbs s acc).1 acc it) := by
  intro cbs
  induction cbs with
  | nil =>
    intro s acc _ _ _ _ _
    exact ⟨fun o ho => Or.inl ho, fun _ _ _ => rfl, fun _ h => nomatch h⟩
  | cons cb cbs ih =>
    intro s acc hnd hlt hacc hbody hb
    have hnd' := List.nodup_cons.mp hnd
    have hcb : cb < s.next := hlt cb (List.mem_cons_self ..)
    obtain ⟨T, _, hnew, hgood⟩ := contIter c body cb s hcb
    rw [contLoop_cons] at hb ⊢
    -- from here on only what `contIter` says about the iteration is used
    generalize (contStep c body cb s).1 = s1 at *
    generalize (contStep c body cb s).2 = nb at *
    have hn1 := T.next_le
    have hnb1 : ∀ y ∈ nb, y < s1.next := fun y hy =>
      InR.lt (fun o ho => List.mem_singleton.mp ho ▸ hcb) hn1 (T.open_r y hy)
    obtain ⟨i2, i3, i4⟩ := ih s1 (acc ++ nb) hnd'.2
      (fun x hx => Nat.lt_of_lt_of_le (hlt x (List.mem_cons_of_mem _ hx)) hn1)
      (fun a ha => (List.mem_append.mp ha).elim (fun h => Nat.lt_of_lt_of_le (hacc a h) hn1) (hnb1 a))
      (Nat.lt_of_lt_of_le hbody hn1) hb
    obtain ⟨g2, it, g3, g4⟩ := hgood (contLoop_badMono c body cbs s1 _ hb)
    -- blocks that exist before the iteration and are not `cb` keep their content in it
    have hfr : ∀ y, y < s.next → y ≠ cb → s1.heap y = s.heap y := fun y hy hne =>
      T.frame y hy (fun hm => hne (List.mem_singleton.mp hm))
    have hold : ∀ y, y < s.next → y ∉ cbs → (contLoop c body cbs s1 (acc ++ nb)).2.heap y = s1.heap y := fun y hy hn =>
      i3 y (Nat.lt_of_lt_of_le hy hn1) hn
    refine ⟨fun o ho => ?_, fun y hy hyn => ?_, fun x hx => ?_⟩
    · rcases i2 o ho with h | ⟨h1, h2⟩
      · rcases List.mem_append.mp h with h | h
        · exact Or.inl h
        · have hno : o ∉ cbs := fun hm => by have := hlt o (List.mem_cons_of_mem _ hm); have := (hnew o h).1; omega
          exact Or.inr ⟨(hnew o h).1, (i3 o (hnb1 o h) hno).trans (hnew o h).2⟩
      · exact Or.inr ⟨Nat.le_trans hn1 h1, h2⟩
    · rw [hold y hy (fun hm => hyn (List.mem_cons_of_mem _ hm)), hfr y hy (fun e => hyn (e ▸ List.mem_cons_self ..))]
    · rcases List.mem_cons.mp hx with e | h
      · subst e
        refine ⟨g2, it, by rw [hold x hcb hnd'.1, g3], g4.mono (fun y hy _ => ?_)⟩
        exact ⟨contLoop_acc_sub c body cbs s1 (acc ++ nb) y (List.mem_append_right _ hy),
          fun hm => by have := hacc y hm; have := (hnew y hy).1; omega⟩
      · obtain ⟨r1, it', r2, r3⟩ := i4 x h
        have hxl : x < s.next := hlt x (List.mem_cons_of_mem _ h)
        have hne : x ≠ cb := fun e => hnd'.1 (e ▸ h)
        refine ⟨by rwa [T.root_stable x hxl, T.root_stable body hbody] at r1, it', by rw [r2, hfr x hxl hne],
          r3.mono (fun y hy hn => ⟨hy, fun hm => hn (List.mem_append_left _ hm)⟩)⟩

/-- `WBody`, and the loop up to the end of the `continue` loop (stage 5): what is pending there, the steps to it from `s`
    (`W`) and from stage 4 (`CL`) -/
structure WCtx (cc : Option Nat) (b : Stmt) (O : List Nat) (s : CSt) : Prop extends WBody b O s where
  hsi1 : SInv (wS1c O s)
  PCl : FPost s (wHb O s :: wRb cc b O s) (wCl cc b O s).2
  W : Step s O (wCl cc b O s).2 (wHb O s :: wRb cc b O s)
  A5 : (wCl cc b O s).2.atStart = false
  CL : Step (wS4 b O s) (wS3 b O s).cont (wCl cc b O s).2 []
  L5 : SameLists (wS4 b O s) (wCl cc b O s).2

theorem contLoop_sameLists (c : Option Nat) (body : Nat) : ∀ (cbs : List Nat) (s : CSt) (acc : List Nat),
    SameLists s (contLoop c body cbs s acc).2 := by
  intro cbs
  induction cbs with
  | nil => intro s acc; exact SameLists.refl s
  | cons cb cbs ih =>
    intro s acc
    rw [contLoop_cons]
    exact (contStep_sameLists c body cb s).trans (ih _ _)

theorem wctx (cc : Option Nat) (b : Stmt) (c : Bool) (hb : CSpec (compile b) true c) (fb : FwdG (compile b) true)
    (O : List Nat) (s : CSt) (hi : Inv s O) (hsi : SInv s) : WCtx cc b O s := by
  have X := wbody b c hb fb O s hi
  have hsi1 := hsi.step (wS1_step O s hi.hlt hi.start).1 hi.hlt.2
  have S4 := (while_fpost4 b c hb O s hi X).2
  obtain ⟨PCl, W, A5⟩ := while_fpostCl cc b c hb O s hi X
  have hl4 := S4.hlt hi.hlt
  exact { X with
    hsi1 := ⟨hsi1.states_lt, hsi1.root0, hsi1.states0⟩, PCl := PCl, W := W, A5 := A5
    CL := (contLoop_step cc (wBody O s) (wS3 b O s).cont (wS4 b O s) []
      ⟨fun o ho => hl4.1 o (List.mem_append_left _ ho), hl4.2⟩).1
    L5 := contLoop_sameLists _ _ _ _ _ }

/-- the body block exists when the back edges are inserted -/
theorem WCtx.body_lt {cc : Option Nat} {b : Stmt} {O : List Nat} {s : CSt} (X : WCtx cc b O s) :
    wBody O s < (wS4 b O s).next := by
  rw [X.next4]; have := X.B.next_le; have : (wS1c O s).next = wBody O s + 1 := X.next1; omega

/-- membership facts about the blocks produced by the body of a loop -/
structure WPieces (cc : Option Nat) (b : Stmt) (O : List Nat) (s : CSt) : Prop where
  cl_new : ∀ y ∈ (wCl cc b O s).1, (wS4 b O s).next ≤ y ∧ (wCl cc b O s).2.heap y = {}
  rng : ∀ y, (y ∈ (wR b O s).1 ∨ y ∈ (wS3 b O s).brk ∨ y ∈ (wS3 b O s).cont ∨ y ∈ dR s (wS4 b O s)) →
    wBody O s ≤ y ∧ y < (wS4 b O s).next
  ob_x : ∀ y ∈ (wR b O s).1, y ∉ (wS3 b O s).brk ∧ y ∉ (wS3 b O s).cont ∧ y ∉ dR s (wS4 b O s)
  br_x : ∀ y ∈ (wS3 b O s).brk, y ∉ (wR b O s).1 ∧ y ∉ (wS3 b O s).cont ∧ y ∉ dR s (wS4 b O s)
  co_x : ∀ y ∈ (wS3 b O s).cont, y ∉ (wR b O s).1 ∧ y ∉ (wS3 b O s).brk ∧ y ∉ dR s (wS4 b O s)
  re_x : ∀ y ∈ dR s (wS4 b O s), y ∉ (wR b O s).1 ∧ y ∉ (wS3 b O s).brk ∧ y ∉ (wS3 b O s).cont
  badR : (wR b O s).2.bad = false
  eff : ∀ cb ∈ (wS3 b O s).cont, (wS4 b O s).root cb ≠ (wS4 b O s).root (wBody O s) ∧
    ∃ it, (wCl cc b O s).2.heap cb = { (wS4 b O s).heap cb with items := ((wS4 b O s).heap cb).items ++ [it] } ∧
      ContItem cc (wBody O s) (wCl cc b O s).1 [] it
  frame5 : ∀ y, y < (wS4 b O s).next → y ∉ (wS3 b O s).cont → (wCl cc b O s).2.heap y = (wS4 b O s).heap y

theorem wpieces (cc : Option Nat) (b : Stmt) (O : List Nat) (s : CSt) (X : WCtx cc b O s)
    (hbad5 : (wCl cc b O s).2.bad = false) : WPieces cc b O s := by
  obtain ⟨nB, nC, nR, xB, xC, xR⟩ := X.FB.lists
  simp only [X.brk_eq, X.cont_eq, X.ret_eq] at nB nC nR xB xC xR
  have hrng : ∀ y, (y ∈ (wR b O s).1 ∨ y ∈ (wS3 b O s).brk ∨ y ∈ (wS3 b O s).cont ∨ y ∈ dR s (wS4 b O s)) →
      wBody O s ≤ y ∧ y < (wS4 b O s).next := by
    intro y hy
    have hin := X.B.outs_r y (mem_Outs.mpr (by rw [X.brk_eq, X.cont_eq, X.ret_eq]; exact hy))
    have := hin.range1 (X.hi1.hlt.1 _ (List.mem_singleton.mpr rfl)) X.B.next_le
    have : (wS1c O s).next = wBody O s + 1 := X.next1
    rw [X.next4]
    omega
  obtain ⟨e2, e3, e4⟩ := contLoop_effect cc (wBody O s) (wS3 b O s).cont (wS4 b O s) [] nC
    (fun cb hcb => (hrng cb (Or.inr (Or.inr (Or.inl hcb)))).2) (by simp) X.body_lt hbad5
  refine ⟨fun y hy => (e2 y hy).resolve_left (by simp), hrng,
    fun y hy => ⟨fun h => (xB y h).1 hy, fun h => (xC y h).1 hy, fun h => (xR y h).1 hy⟩, xB, xC, xR, ?_, e4, e3⟩
  have h4 := contLoop_badMono _ _ _ _ _ hbad5
  exact (CSt.addfrontAll_bad _ _ _).symm.trans h4

/-- the stages up to `wS1` when the loop is entered after the start: the head state is new (index `s.states.length`,
    root block `s.next`), and every open block got the transition to it -/
theorem wS1_ns (O : List Nat) (s : CSt) (hi : Inv s O) (hst : s.atStart = false) :
    wIdx O s = s.states.length ∧ wHb O s = s.next ∧ (wS1 O s).next = s.next + 2 ∧
    (wS1 O s).states = s.states ++ [s.next] ∧ (wS1 O s).heap s.next = {} ∧
    (∀ o ∈ O, (wS1 O s).heap o = { s.heap o with front := [s.states.length] }) := by
  obtain ⟨e1, e2, e3, e4, _, e6, e7, _⟩ := enter_nostart_facts hi hst
  have hw0 : wS0 O s = (enterState O s).2.2 := by rw [wS0, hst]; rfl
  have hn0 : (wS0 O s).next = s.next + 1 := by rw [hw0, e3]
  have hne : s.next ≠ (wS0 O s).next := by omega
  refine ⟨e1, e2, ?_, ?_, ?_, ?_⟩
  · show (wS0 O s).next + 1 = _
    rw [hn0]
  · show (wS0 O s).states = _
    rw [hw0, e6]
  · rw [wS1, CSt.newBlock_heap_old _ _ hne, hw0, e4]
  · intro o ho
    have hno : o ≠ (wS0 O s).next := by have := hi.hlt.1 o ho; omega
    rw [wS1, CSt.newBlock_heap_old _ _ hno, hw0, e7 o ho]

/-- the same when the loop is the first statement: the head state is state 0, its root block 0 gets the `Nop` -/
theorem wS1_start (s : CSt) (hsi : SInv s) (h0 : 0 < s.next) (hst : s.atStart = true) :
    wIdx [0] s = 0 ∧ wHb [0] s = 0 ∧ wBody [0] s = s.next ∧ (wS1 [0] s).next = s.next + 1 ∧
    (wS1 [0] s).states = s.states ∧ (wS1 [0] s).heap 0 = { front := [], items := [.nop] } ∧
    (wS1 [0] s).root s.next = 0 ∧ (wS1 [0] s).root 0 = 0 := by
  have hhb : wHb [0] s = 0 := by rw [wHb, enterState_start [0] s hst]
  have hw0 : wS0 [0] s = s.append 0 .nop := by rw [wS0, hst, if_pos rfl, hhb, enterState_start [0] s hst]
  have hn0 : (wS0 [0] s).next = s.next := by rw [hw0]; rfl
  have hne : (0 : Nat) ≠ (wS0 [0] s).next := by omega
  refine ⟨by rw [wIdx, enterState_start [0] s hst], hhb, hn0, ?_, ?_, ?_, ?_, ?_⟩
  · show (wS0 [0] s).next + 1 = _
    rw [hn0]
  · show (wS0 [0] s).states = _
    rw [hw0]; rfl
  · rw [wS1, CSt.newBlock_heap_old _ _ hne, hw0, CSt.append_heap_self, atStart_heap0 hst]
    rfl
  · rw [← hn0, wS1, CSt.newBlock_root_new]
    show (wS0 [0] s).root (wHb [0] s) = 0
    rw [hhb, hw0]
    exact hsi.root0
  · rw [wS1, CSt.newBlock_root_old _ _ hne, hw0]
    exact hsi.root0

theorem wS1_bad (O : List Nat) (s : CSt) : (wS1 O s).bad = s.bad := by
  show (wS0 O s).bad = s.bad
  unfold wS0
  split <;> exact enterState_bad O s

end CohdlVerif.C01
