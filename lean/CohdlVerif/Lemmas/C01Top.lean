import CohdlVerif.Lemmas.C01Export
import CohdlVerif.Lemmas.C01Await
import CohdlVerif.Lemmas.C01If
import CohdlVerif.Lemmas.C01While
import CohdlVerif.Lemmas.C01Call
import CohdlVerif.Lemmas.C01Plain

/-! C01 - the simulation claim for every well-formed statement (`simW`), and the correctness of the compiler mirror:
  a relation between suspensions and machine states that stays in step (`compile_sim`), hence equal data traces
  (`compile_correct_wf`). -/
namespace CohdlVerif.C01

variable {σ : Type} (act : Nat → σ → σ) (cond : Nat → σ → Bool)
variable (prog : Stmt) (Hf : Nat → Blk) (E : Nat → σ → σ × Option Nat) (Rf : Nat → Nat) (Sf : List Nat)

/-- simulation for every number of clocks -/
def SimAll (r : Susp) (i : Nat) : Prop := ∀ m, SimN act cond prog E Sf m r i

theorem SimAll.step {r : Susp} {i : Nat} (h : SimAll act cond prog E Sf r i) (s : σ) :
    ∃ f r', refStep act cond f prog r s = some (r', (mStep E Sf i s).2) ∧ SimAll act cond prog E Sf r' (mStep E Sf i s).1 := by
  obtain ⟨f, r', h1, _⟩ := h 1 s
  refine ⟨f, r', h1, ?_⟩
  intro m
  obtain ⟨f2, r2, h2, h3⟩ := h (m+1) s
  have a := refStep_mono_le act cond prog f (max f f2) (Nat.le_max_left _ _) r s _ h1
  have b := refStep_mono_le act cond prog f2 (max f f2) (Nat.le_max_right _ _) r s _ h2
  rw [a] at b
  have : r' = r2 := by injection b with b; exact (Prod.mk.inj b).1
  rw [this]; exact h3

/-- `R` relates suspensions of `p` and states of `sm` that stay in step: from a related pair, in every data state, one
    clock of the reference (given enough fuel) and one clock of the machine end in the same data state and in a
    related pair.  The semantic counterpart of a certificate accepted by `closed` (`C01.step_sim`). -/
def StepSim (p : Stmt) (sm : SM) (R : Susp → Nat → Prop) : Prop :=
  ∀ r i, R r i → ∀ s : σ, ∃ f r', refStep act cond f p r s = some (r', (smStep act cond sm i s).2) ∧
    R r' (smStep act cond sm i s).1

/-- related pairs have the same data traces, and stay related -/
theorem StepSim.trace {p : Stmt} {sm : SM} {R : Susp → Nat → Prop} (h : StepSim act cond p sm R) {r0 : Susp} {i0 : Nat}
    (h0 : R r0 i0) (inp : Nat → σ → σ) (s0 : σ) :
    ∀ n, ∃ f r, (∀ f', f ≤ f' → refTrace act cond f' p inp n (some (r0, s0)) =
        some (r, (smTrace act cond sm inp n (i0, s0)).2)) ∧ R r (smTrace act cond sm inp n (i0, s0)).1 := by
  intro n
  induction n with
  | zero => exact ⟨0, r0, fun _ _ => rfl, h0⟩
  | succ n ih =>
    obtain ⟨f, r, h1, h2⟩ := ih
    obtain ⟨f2, r', h3, h4⟩ := h r _ h2 (inp n (smTrace act cond sm inp n (i0, s0)).2)
    refine ⟨max f f2, r', ?_, h4⟩
    intro f' hf'
    simp only [refTrace, smTrace]
    rw [h1 f' (by omega)]
    exact refStep_mono_le act cond p f2 f' (by omega) _ _ _ h3

/-- the step of the exported machine is the step on the block heap (transitions kept) -/
theorem smStep_eq_mStep (H : Nat → Blk) (N : Nat) (Sf : List Nat) (codes : List Code)
    (hm : Sf.mapM (fun b => flatB true H N b .nil) = some codes) (i : Nat) (s : σ) :
    smStep act cond ⟨codes⟩ i s = mStep (Eof act cond (flatB true H N)) Sf i s := by
  simp only [smStep, mStep, List.getD_eq_getElem?_getD, mapM_some _ _ _ hm i]
  cases Sf[i]? with
  | none => rfl
  | some r =>
    simp only [Option.bind_some, Eof]
    cases flatB true H N r .nil <;> rfl

theorem simW (hE : ∀ b s, E b s = execB act cond E (Hf b) s) :
    ∀ (t : Stmt) (l c : Bool), wf t l c = true → SimG act cond prog Hf E Rf Sf t l := by
  intro t
  induction t with
  | skip => intro l c _; exact simG_skip act cond prog Hf E Rf Sf l
  | act a k ih =>
    intro l c h
    have hk : wf k l c = true := by simpa [wf] using h
    exact simG_act act cond prog Hf E Rf Sf a k l c (compile_spec k l c hk) (ih l c hk)
  | await cc k ih =>
    intro l c h
    have hk : wf k l c = true := by simpa [wf] using h
    exact simG_await act cond prog Hf E Rf Sf hE cc k l c (compile_spec k l c hk) (ih l c hk)
  | awaitF => intro l c _; exact simG_awaitF act cond prog Hf E Rf Sf hE l
  | ite cc t e k iht ihe ihk =>
    intro l c h
    simp only [wf, Bool.and_eq_true] at h
    exact simG_ite act cond prog Hf E Rf Sf hE cc t e k l c
      (compile_spec t l c h.1.1) (compile_spec e l c h.1.2) (compile_spec k l c h.2) (fwdW t l c h.1.1) (fwdW e l c h.1.2)
      (compile_badMono t) (compile_badMono e) (compile_badMono k) (iht l c h.1.1) (ihe l c h.1.2) (ihk l c h.2)
      (plainX act cond Hf E Rf Sf hE t l c h.1.1) (plainX act cond Hf E Rf Sf hE e l c h.1.2)
      (pendS t l c h.1.1) (pendS e l c h.1.2)
  | while_ cc b k ihb ihk =>
    intro l c h
    simp only [wf, Bool.and_eq_true] at h
    exact simG_while act cond prog Hf E Rf Sf hE cc b k l c (compile_spec b true c h.1) (compile_spec k l c h.2)
      (fwdW b true c h.1) (compile_badMono k) (ihb true c h.1) (ihk l c h.2)
  | brk => intro l c _; exact simG_brk act cond prog Hf E Rf Sf l
  | cont => intro l c _; exact simG_cont act cond prog Hf E Rf Sf l
  | ret => intro l c _; exact simG_ret act cond prog Hf E Rf Sf l
  | call b k ihb ihk =>
    intro l c h
    simp only [wf, Bool.and_eq_true] at h
    exact simG_call act cond prog Hf E Rf Sf b k l c (compile_spec b false true h.1) (compile_spec k l c h.2)
      (fwdW b false true h.1) (ihb false true h.1) (ihk l c h.2)

theorem final_ctxW (p : Stmt) (hp : wf p false false = true) :
    (∀ o ∈ (compileSt p).1, lastT (((compileSt p).2.addfrontAll (compileSt p).1 0).heap o).front = some 0) ∧
    (∀ x, (compileSt p).2.next ≤ x → ((compileSt p).2.addfrontAll (compileSt p).1 0).heap x = {}) ∧
    TOK ((compileSt p).2.addfrontAll (compileSt p).1 0) ∧ SInv (compileSt p).2 ∧ 0 < (compileSt p).2.next := by
  have T : Step CSt.init [0] (compileSt p).2 (compileSt p).1 :=
    (compile_spec p false false hp).step Inv.init (fun h => by cases h)
  have hl := T.hlt Inv.init.hlt
  have F : FPost CSt.init (compileSt p).1 (compileSt p).2 := fwdW p false false hp [0] CSt.init Inv.init (fun h => by cases h)
  have hx := HeapExt.addfrontAll (compileSt p).1 0 (compileSt p).1 (compileSt p).2 (fun _ h => h) (fun h => h)
  refine ⟨fun o ho => ?_, fun x hx' => ?_, hx.tgt (T.tgt TOK.init), SInv.init.step T (by simp [CSt.init]), hl.2⟩
  · rw [addfrontAll_heap_nodup 0 o _ _ F.nodup_open ho]
    simp only [F.2 o (mem_Outs.mpr (Or.inl ho))]; rfl
  · rw [addfrontAll_heap_notin 0 x _ _ (fun hm => Nat.not_le_of_lt (hl.1 x hm) hx')]
    exact T.fresh (fun x _ => rfl) x hx'

/-- the start of a well-formed program and state 0 of its final heap simulate each other.  Induction on the clocks:
    `simW` for the whole program at level `m + 1` asks of the blocks open at the end, which jump to state 0, only
    `SimN m .start 0`. -/
theorem start_simW (p : Stmt) (hp : wf p false false = true) (hrej : rejected p = false) (Hf : Nat → Blk)
    (E : Nat → σ → σ × Option Nat) (hE : ∀ b s, E b s = execB act cond E (Hf b) s)
    (H1 : ∀ x, (Hf x).items = ((compileSt p).2.heap x).items)
    (H2 : ∀ x, x ∉ (compileSt p).1 → Hf x = (compileSt p).2.heap x)
    (H3 : ∀ o ∈ (compileSt p).1, lastT (Hf o).front = some 0) :
    SimAll act cond p E (compileSt p).2.states .start 0 := by
  obtain ⟨_, _, _, hsi', h0⟩ := final_ctxW p hp
  simp only [rejected, Bool.or_eq_false_iff, Bool.not_eq_false', List.isEmpty_iff] at hrej
  obtain ⟨⟨⟨hbad, hb⟩, hc⟩, hr⟩ := hrej
  have hF : Fut Hf (compileSt p).2.root (compileSt p).2.states (compileSt p).2 (fun y => y ∈ (compileSt p).1) :=
    ⟨fun x _ => H1 x ▸ List.prefix_refl _, fun x _ hx => H2 x hx, fun _ _ => rfl, List.prefix_refl _⟩
  obtain ⟨hc0, hS0⟩ := cur_zero Hf (compileSt p).2.root (compileSt p).2.states hsi' h0 hF
  -- an accepted program leaves nothing on the break / continue / return lists
  have hnl : ∀ {y q}, ¬ Listed CSt.init (compileSt p).2 y q := fun h => by
    simp [Listed, dB, dC, dR, hb, hc, hr] at h
  intro m
  induction m with
  | zero => trivial
  | succ m ih =>
    have hprem : Prems act cond p Hf E (compileSt p).2.root (compileSt p).2.states (m+1) [0] [] CSt.init
        (compile p [0] CSt.init) := by
      refine ⟨?_, fun o' q hq => (hnl hq).elim⟩
      intro o' ho' suf hsuf s0
      have hsuf' : (Hf o').items = ((compileSt p).2.heap o').items ++ suf := hsuf
      rw [H1] at hsuf'
      have : suf = [] := by simpa using hsuf'.symm
      subst this
      exact SimPt2.suspend act cond p Hf E _ o' (H3 o' ho') rfl
        (SimN_mono_le act cond p E _ _ _ (by have := lvl_le (compileSt p).2.root [0] (m+1) o'; omega) _ _ ih)
    have hs := simW act cond p Hf E (compileSt p).2.root (compileSt p).2.states hE p false false hp [] [0] CSt.init (m+1) [0]
      (fun y => y ∈ (compileSt p).1) Inv.init SInv.init (fun h => by cases h) hbad hF
      (fun y hy _ _ => mem_Outs.mpr (Or.inl hy)) hprem 0 (by simp)
    have hlv : lvl (compileSt p).2.root [0] (m+1) 0 = m + 1 := by simp [lvl, hsi'.root0]
    rw [hlv] at hs
    intro s0
    have h1 := hs (Hf 0).items (by simp [CSt.init]) s0
    rw [← E_tailF act cond Hf E hE 0, hc0] at h1
    rcases h1 with h1 | ⟨f, r, h1, h2, _⟩
    · omega
    · rw [mStep_some E _ 0 0 hS0]
      exact ⟨f, r, by simpa [refStep, show CSt.init.atStart = true from rfl] using h1, h2⟩

/-- several states: the exported machine is the machine on the final block heap, whose state 0 simulates the start of
    the program -/
theorem sim_multi (p : Stmt) (hp : wf p false false = true) (hrej : rejected p = false) (codes : List Code)
    (hall : ∀ b, b < (compileSt p).2.next →
      (flatB true ((compileSt p).2.addfrontAll (compileSt p).1 0).heap (compileSt p).2.next b .nil).isSome)
    (hm : (compileSt p).2.states.mapM
      (fun b => flatB true ((compileSt p).2.addfrontAll (compileSt p).1 0).heap (compileSt p).2.next b .nil) = some codes) :
    ∃ R : Susp → Nat → Prop, R .start 0 ∧ StepSim (σ := σ) act cond p ⟨codes⟩ R := by
  obtain ⟨H3, H4, _, _, h0⟩ := final_ctxW p hp
  have hallOK : ∀ b, (flatB true ((compileSt p).2.addfrontAll (compileSt p).1 0).heap (compileSt p).2.next b .nil).isSome := by
    intro b
    by_cases hb : b < (compileSt p).2.next
    · exact hall b hb
    · rw [flatB_empty true _ _ b h0 (H4 b (by omega))]; rfl
  refine ⟨_, start_simW act cond p hp hrej _ _ (heap_fix act cond _ _ hallOK) (fun x => addfrontAll_items 0 x _ _)
    (fun x hx => addfrontAll_heap_notin 0 x _ _ hx) H3, fun r i hr s => ?_⟩
  rw [smStep_eq_mStep act cond _ _ _ codes hm]
  exact hr.step act cond p _ _ s

/-- a single state: the exported code has its transitions removed -/
theorem sim_single (p : Stmt) (hp : wf p false false = true) (hrej : rejected p = false) (hlen : (compileSt p).2.states.length = 1)
    (codes : List Code)
    (hall : ∀ b, b < (compileSt p).2.next → (flatB false (compileSt p).2.heap (compileSt p).2.next b .nil).isSome)
    (hm : (compileSt p).2.states.mapM (fun b => flatB false (compileSt p).2.heap (compileSt p).2.next b .nil) = some codes) :
    ∃ R : Susp → Nat → Prop, R .start 0 ∧ StepSim (σ := σ) act cond p ⟨codes⟩ R := by
  obtain ⟨_, _, htok, hsi, h0⟩ := final_ctxW p hp
  have H1 := fun x => addfrontAll_items 0 x (compileSt p).1 (compileSt p).2
  have hst : (compileSt p).2.states = [0] := by
    obtain ⟨tl, htl⟩ := hsi.states0
    rw [htl] at hlen ⊢
    cases tl with
    | nil => rfl
    | cons a as => simp at hlen
  have hall' := fun b hb => flatB_isSome_congr false true _ _ H1 _ b .nil .nil (hall b hb)
  -- the code of state 0, with and without transitions
  obtain ⟨c0', hc0'⟩ := Option.isSome_iff_exists.mp (hall' 0 h0)
  have hc0 : flatB false (compileSt p).2.heap (compileSt p).2.next 0 .nil = some (dropT c0') :=
    flatB_dropT _ (compileSt p).2.heap (fun x => (H1 x).symm) _ 0 .nil c0' hc0'
  rw [hst] at hm
  simp only [List.mapM_cons, List.mapM_nil, hc0, Option.pure_def, Option.bind_eq_bind, Option.bind_some,
    Option.some.injEq] at hm
  subst hm
  obtain ⟨R, hR0, hR⟩ := sim_multi act cond p hp hrej [c0'] hall' (by rw [hst]; simp [hc0'])
  -- without its transitions the machine does the same, since it never leaves state 0
  have hstep : ∀ s, smStep act cond ⟨[dropT c0']⟩ 0 s = smStep act cond ⟨[c0']⟩ 0 s ∧
      (smStep act cond ⟨[c0']⟩ 0 s).1 = 0 := by
    intro s
    have hp0 : (exec act cond c0' s none).2.getD 0 = 0 := by
      cases hq : (exec act cond c0' s none).2 with
      | none => rfl
      | some t =>
        rcases exec_tgts act cond c0' s none t hq with h | h
        · cases h
        · rcases flatB_tgts _ _ _ _ _ hc0' t h with h | ⟨b', h⟩
          · simp [tgts] at h
          · have := htok.2 b' t h
            rw [CSt.addfrontAll_states, hlen] at this
            simp only [Option.getD_some]; omega
    simp only [smStep, List.getD_cons_zero]
    rw [exec_dropT act cond c0' s none none, hp0]
    exact ⟨rfl, rfl⟩
  refine ⟨fun r i => i = 0 ∧ R r 0, ⟨rfl, hR0⟩, ?_⟩
  rintro r i ⟨rfl, hr⟩ s
  obtain ⟨f, r', h1, h2⟩ := hR r 0 hr s
  rw [(hstep s).1]
  exact ⟨f, r', h1, (hstep s).2, by rwa [(hstep s).2] at h2⟩

/-- every well-formed program (the whole grammar): whenever the mirror produces a machine, there is a relation between
    the suspensions of the coroutine body and the states of the machine that contains (start, state 0) and stays in
    step - data and control -/
theorem compile_sim (p : Stmt) (hp : wf p false false = true) (sm : SM) (h : compileSM p = some sm) :
    ∃ R : Susp → Nat → Prop, R .start 0 ∧ StepSim (σ := σ) act cond p sm R := by
  have hboth : rejected p = false ∧ finish (compileSt p).1 (compileSt p).2 = some sm := by
    simp only [compileSM] at h
    split at h
    · cases h
    · rename_i hr
      exact ⟨by simpa using hr, h⟩
  obtain ⟨hrej, hfin⟩ := hboth
  obtain ⟨codes, rfl, ⟨hall, hm⟩ | ⟨hlen, hall, hm⟩⟩ := finish_some _ _ _ hfin
  · exact sim_multi act cond p hp hrej codes hall hm
  · exact sim_single act cond p hp hrej hlen codes hall hm

/-- in particular the data trace of the machine equals the reference trace of the coroutine body (for every
    sufficiently large fuel of the reference interpreter) -/
theorem compile_correct_wf (p : Stmt) (hp : wf p false false = true) (sm : SM) (h : compileSM p = some sm)
    (inp : Nat → σ → σ) (s0 : σ) (n : Nat) :
    ∃ f, ∀ f', f ≤ f' → (refTrace act cond f' p inp n (some (.start, s0))).map (·.2) =
      some (smTrace act cond sm inp n (0, s0)).2 := by
  obtain ⟨R, h0, hR⟩ := compile_sim act cond p hp sm h
  obtain ⟨f, r, h1, _⟩ := hR.trace act cond h0 inp s0 n
  exact ⟨f, fun f' hf' => by rw [h1 f' hf']; rfl⟩

end CohdlVerif.C01
