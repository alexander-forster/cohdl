import CohdlVerif.Model.C12

/-!
  C12 - sub-templates of a design, well-formedness, and the library walk `collectT` (mirror of
  `Library.from_top_entity`); the facts about the emitted library are invariants of the walk (`collectT_inv`).
-/
namespace CohdlVerif.C12

mutual
/-- the template itself and all templates instantiated (transitively) below it -/
def subT : Tmpl → List Tmpl
  | .mk n p l lg is => .mk n p l lg is :: subIs is
def subIs : Insts → List Tmpl
  | .nil => []
  | .cons t _ rest => subT t ++ subIs rest
end

/-- the direct instances of a template: (instantiated template, actuals) -/
def instList : Insts → List (Tmpl × List (String × Actual))
  | .nil => []
  | .cons t acts rest => (t, acts) :: instList rest

mutual
def sizeT : Tmpl → Nat
  | .mk _ _ _ _ is => 1 + sizeIs is
def sizeIs : Insts → Nat
  | .nil => 0
  | .cons t _ rest => sizeT t + sizeIs rest
end

/-- an entity CLASS is one object: two templates of the design with the same name are the same template
    (the compiler identifies templates by object identity, `EntityInfo.instantiated_template`) -/
def Consistent (d : Tmpl) : Prop :=
  ∀ s1 ∈ subT d, ∀ s2 ∈ subT d, s1.name = s2.name → s1 = s2

mutual
/-- what `Entity.__init__` enforces for every instance: every keyword argument names a declared port
    (`raise AssertionError(f"invalid argument '{name}'")`) -/
def WfT : Tmpl → Prop
  | .mk _ _ _ _ is => WfIs is
def WfIs : Insts → Prop
  | .nil => True
  | .cons t acts rest => (∀ fa ∈ acts, fa.1 ∈ t.ports.map (·.name)) ∧ WfT t ∧ WfIs rest
end

section
variable {s t : Tmpl} {n : String} {p : List Port} {l : List Local} {lg : List Leaf} {is rest : Insts}
  {acts : List (String × Actual)} {ca : Tmpl × List (String × Actual)}

theorem mem_subT : s ∈ subT (.mk n p l lg is) ↔ s = .mk n p l lg is ∨ s ∈ subIs is := List.mem_cons

theorem mem_subIs_cons : s ∈ subIs (.cons t acts rest) ↔ s ∈ subT t ∨ s ∈ subIs rest := List.mem_append

theorem mem_instList_cons : ca ∈ instList (.cons t acts rest) ↔ ca = (t, acts) ∨ ca ∈ instList rest := List.mem_cons

theorem wfIs_cons :
    WfIs (.cons t acts rest) ↔ (∀ fa ∈ acts, fa.1 ∈ t.ports.map (·.name)) ∧ WfT t ∧ WfIs rest := Iff.rfl

end

theorem self_mem_subT (t : Tmpl) : t ∈ subT t := by
  cases t
  exact mem_subT.mpr (Or.inl rfl)

theorem subIs_subset_subT (t : Tmpl) : ∀ s ∈ subIs t.insts, s ∈ subT t := by
  cases t
  exact fun s hs => mem_subT.mpr (Or.inr hs)

mutual
theorem sizeT_le : ∀ (t : Tmpl) (s : Tmpl), s ∈ subT t → sizeT s ≤ sizeT t
  | .mk n p l lg is, s, hs => by
      rcases mem_subT.mp hs with rfl | hs
      · exact Nat.le_refl _
      · exact Nat.le_trans (sizeIs_le is s hs) (Nat.le_add_left _ 1)
theorem sizeIs_le : ∀ (is : Insts) (s : Tmpl), s ∈ subIs is → sizeT s ≤ sizeIs is
  | .nil, s, hs => nomatch hs
  | .cons t acts rest, s, hs => by
      rcases mem_subIs_cons.mp hs with hs | hs
      · exact Nat.le_trans (sizeT_le t s hs) (Nat.le_add_right _ _)
      · exact Nat.le_trans (sizeIs_le rest s hs) (Nat.le_add_left _ _)
end

/-- a template never contains (transitively) a template with its own name: classes cannot instantiate themselves -/
theorem top_fresh (d : Tmpl) (hc : Consistent d) : ∀ s ∈ subIs d.insts, s.name ≠ d.name := by
  intro s hs hn
  obtain rfl := hc s (subIs_subset_subT d s hs) d (self_mem_subT d) hn
  have h3 := sizeIs_le s.insts s hs
  cases s with
  | mk n p l lg is =>
    have h3 : 1 + sizeIs is ≤ sizeIs is := h3
    omega

theorem instList_sub : ∀ (is : Insts) (ca : Tmpl × List (String × Actual)), ca ∈ instList is → ∀ s ∈ subT ca.1, s ∈ subIs is
  | .nil, ca, h => nomatch h
  | .cons t acts rest, ca, h => by
      intro s hs
      rcases mem_instList_cons.mp h with rfl | h
      · exact mem_subIs_cons.mpr (Or.inl hs)
      · exact mem_subIs_cons.mpr (Or.inr (instList_sub rest ca h s hs))

theorem WfIs_instList : ∀ (is : Insts), WfIs is → ∀ ca ∈ instList is, (∀ fa ∈ ca.2, fa.1 ∈ ca.1.ports.map (·.name)) ∧ WfT ca.1
  | .nil, _, ca, h => nomatch h
  | .cons t acts rest, hw, ca, h => by
      obtain ⟨hacts, ht, hrest⟩ := wfIs_cons.mp hw
      rcases mem_instList_cons.mp h with rfl | h
      · exact ⟨hacts, ht⟩
      · exact WfIs_instList rest hrest ca h

@[simp] theorem emitEntity_name (t : Tmpl) : (emitEntity t).name = t.name := by cases t; rfl
@[simp] theorem emitEntity_ports (t : Tmpl) : (emitEntity t).ports = t.ports := by cases t; rfl
@[simp] theorem emitEntity_logic (t : Tmpl) : (emitEntity t).logic = t.logic := by cases t; rfl
theorem emitEntity_insts (t : Tmpl) : (emitEntity t).insts = emitInsts 0 t.insts := by cases t; rfl

theorem emitInsts_cons (k t acts rest) :
    emitInsts k (.cons t acts rest) = ⟨k, t.name, pmapOf t.ports acts⟩ :: emitInsts (k + 1) rest := rfl

theorem emitInsts_mem : ∀ (is : Insts) (k : Nat) (i : EInst), i ∈ emitInsts k is →
    ∃ ca ∈ instList is, i.entity = ca.1.name ∧ i.pmap = pmapOf ca.1.ports ca.2
  | .nil, k, i, h => nomatch h
  | .cons t acts rest, k, i, h => by
      rw [emitInsts_cons] at h
      rcases List.mem_cons.mp h with rfl | h
      · exact ⟨(t, acts), List.mem_cons_self, rfl, rfl⟩
      · obtain ⟨ca, hca, h1, h2⟩ := emitInsts_mem rest (k + 1) i h
        exact ⟨ca, List.mem_cons_of_mem _ hca, h1, h2⟩

theorem hasName_cons (e : Entity) (r : List Entity) (n : String) :
    hasName (e :: r) n = (e.name == n || hasName r n) := List.any_cons

theorem hasName_iff (r : List Entity) (n : String) : hasName r n = true ↔ ∃ e ∈ r, e.name = n := by
  simp [hasName]

theorem collectT_mk (racc n p l lg is) : collectT racc (.mk n p l lg is) =
      if hasName (collectIs racc is) n then collectIs racc is
      else emitEntity (.mk n p l lg is) :: collectIs racc is := rfl

mutual
theorem collectT_mono (t : Tmpl) (racc : List Entity) (n : String) (h : hasName racc n = true) :
    hasName (collectT racc t) n = true :=
  match t with
  | .mk _ _ _ _ is => by
      rw [collectT_mk]
      split
      · exact collectIs_mono is racc n h
      · rw [hasName_cons, collectIs_mono is racc n h, Bool.or_true]
theorem collectIs_mono (is : Insts) (racc : List Entity) (n : String) (h : hasName racc n = true) :
    hasName (collectIs racc is) n = true :=
  match is with
  | .nil => h
  | .cons t _ rest => collectIs_mono rest _ n (collectT_mono t racc n h)
end

mutual
theorem collectT_complete : ∀ (t : Tmpl) (racc : List Entity), ∀ s ∈ subT t, hasName (collectT racc t) s.name = true
  | .mk n p l lg is, racc, s, hs => by
      rw [collectT_mk]
      split
      · rcases mem_subT.mp hs with rfl | hs
        · assumption
        · exact collectIs_complete is racc s hs
      · rw [hasName_cons]
        rcases mem_subT.mp hs with rfl | hs
        · rw [emitEntity_name, beq_self_eq_true, Bool.true_or]
        · rw [collectIs_complete is racc s hs, Bool.or_true]
theorem collectIs_complete : ∀ (is : Insts) (racc : List Entity), ∀ s ∈ subIs is, hasName (collectIs racc is) s.name = true
  | .nil, racc, s, hs => nomatch hs
  | .cons t acts rest, racc, s, hs => by
      rcases mem_subIs_cons.mp hs with hs | hs
      · exact collectIs_mono rest _ _ (collectT_complete t racc s hs)
      · exact collectIs_complete rest _ s hs
end

mutual
/-- The walk adds the entity of a template `t` after it has walked the instances of `t`, and only if no entity of
    that name is there yet.  A property `P` of the library that survives every such addition survives the walk.
    `Q` is what an addition may assume of `t`; it passes from a template to the templates it instantiates. -/
theorem collectT_inv {P : List Entity → Prop} {Q : Tmpl → Prop}
    (hQ : ∀ t, Q t → ∀ ca ∈ instList t.insts, Q ca.1)
    (add : ∀ t r, Q t → P r → hasName r t.name = false → (∀ s ∈ subIs t.insts, hasName r s.name = true) →
      P (emitEntity t :: r)) :
    ∀ (t : Tmpl) (racc : List Entity), Q t → P racc → P (collectT racc t)
  | .mk n p l lg is, racc, hq, h => by
      have h1 := collectIs_inv hQ add is racc (hQ _ hq) h
      rw [collectT_mk]
      split
      · exact h1
      · rename_i hn
        exact add _ _ hq h1 (Bool.eq_false_iff.mpr hn) (collectIs_complete is racc)
theorem collectIs_inv {P : List Entity → Prop} {Q : Tmpl → Prop}
    (hQ : ∀ t, Q t → ∀ ca ∈ instList t.insts, Q ca.1)
    (add : ∀ t r, Q t → P r → hasName r t.name = false → (∀ s ∈ subIs t.insts, hasName r s.name = true) →
      P (emitEntity t :: r)) :
    ∀ (is : Insts) (racc : List Entity), (∀ ca ∈ instList is, Q ca.1) → P racc → P (collectIs racc is)
  | .nil, _, _, h => h
  | .cons t acts rest, racc, hq, h =>
      collectIs_inv hQ add rest _ (fun ca hca => hq ca (List.mem_cons_of_mem _ hca))
        (collectT_inv hQ add t racc (hq (t, acts) List.mem_cons_self) h)
end

theorem subT_of_inst {t : Tmpl} {ca : Tmpl × List (String × Actual)} (hca : ca ∈ instList t.insts) :
    ∀ s ∈ subT ca.1, s ∈ subT t :=
  fun s hs => subIs_subset_subT t s (instList_sub t.insts ca hca s hs)

theorem collectIs_mem (is : Insts) (racc : List Entity) (e : Entity) (h : e ∈ collectIs racc is) :
    e ∈ racc ∨ ∃ s ∈ subIs is, e = emitEntity s := by
  refine collectIs_inv (P := fun r => ∀ e ∈ r, e ∈ racc ∨ ∃ s ∈ subIs is, e = emitEntity s)
    (Q := fun t => ∀ s ∈ subT t, s ∈ subIs is) (fun t hq ca hca s hs => hq s (subT_of_inst hca s hs))
    (fun t r hq hr _ _ e he => ?_) is racc (instList_sub is) (fun e he => Or.inl he) e h
  rcases List.mem_cons.mp he with rfl | he
  · exact Or.inr ⟨t, hq t (self_mem_subT t), rfl⟩
  · exact hr e he

theorem collectT_mem (t : Tmpl) (racc : List Entity) (e : Entity) (h : e ∈ collectT racc t) :
    e ∈ racc ∨ ∃ s ∈ subT t, e = emitEntity s := by
  -- walking one template is walking the instance list that holds just this template
  rcases collectIs_mem (.cons t [] .nil) racc e h with h | ⟨s, hs, he⟩
  · exact Or.inl h
  · exact Or.inr ⟨s, (mem_subIs_cons.mp hs).resolve_right (fun h => nomatch h), he⟩

theorem emitHier_mem {d : Tmpl} {e : Entity} (he : e ∈ emitHier d) : ∃ s ∈ subT d, e = emitEntity s :=
  (collectT_mem d [] e (List.mem_reverse.mp he)).resolve_left (fun h => nomatch h)

theorem emitHier_complete {d s : Tmpl} (hs : s ∈ subT d) : ∃ e ∈ emitHier d, e.name = s.name := by
  obtain ⟨e, he, hen⟩ := (hasName_iff _ _).mp (collectT_complete d [] s hs)
  exact ⟨e, List.mem_reverse.mpr he, hen⟩

/-- when the walk reaches the top template its entity is new: nothing below a template has the template's name -/
theorem collectT_top (d : Tmpl) (hc : Consistent d) :
    hasName (collectIs [] d.insts) d.name = false ∧ collectT [] d = emitEntity d :: collectIs [] d.insts := by
  have hnot : hasName (collectIs [] d.insts) d.name = false := by
    refine Bool.eq_false_iff.mpr fun hh => ?_
    obtain ⟨e, he, hen⟩ := (hasName_iff _ _).mp hh
    rcases collectIs_mem d.insts [] e he with h | ⟨s, hs, rfl⟩
    · cases h
    · exact top_fresh d hc s hs (by simpa using hen)
  refine ⟨hnot, ?_⟩
  cases d
  exact (collectT_mk ..).trans (if_neg (Bool.eq_false_iff.mp hnot))

/-- no two entities of the (reversed) library share a name -/
def NamesNodup (r : List Entity) : Prop := (r.map (·.name)).Nodup

theorem collectIs_nodup : ∀ (is : Insts) (racc : List Entity), NamesNodup racc → NamesNodup (collectIs racc is) := by
  refine fun is racc => collectIs_inv (Q := fun _ => True) (fun _ _ _ _ => trivial) (fun t r _ h hn _ => ?_)
    is racc (fun _ _ => trivial)
  refine List.nodup_cons.mpr ⟨fun hmem => ?_, h⟩
  obtain ⟨e, he, hen⟩ := List.mem_map.mp hmem
  rw [(hasName_iff r t.name).mpr ⟨e, he, hen.trans (emitEntity_name t)⟩] at hn
  cases hn

theorem collectT_nodup (t : Tmpl) (racc : List Entity) : NamesNodup racc → NamesNodup (collectT racc t) :=
  collectIs_nodup (.cons t [] .nil) racc

theorem nodup_reverse_of_nodup {α : Type} {l : List α} (h : l.Nodup) : l.reverse.Nodup := by
  unfold List.Nodup at *
  rw [List.pairwise_reverse]
  exact h.imp (fun hab => Ne.symm hab)

/-- every entity of the (reversed) library instantiates only entities that come later in the reversed
    list, i.e. EARLIER in the emitted text -/
inductive Closed : List Entity → Prop
  | nil : Closed []
  | cons (e : Entity) (older : List Entity) :
      (∀ i ∈ e.insts, hasName older i.entity = true) → Closed older → Closed (e :: older)

theorem collectIs_closed : ∀ (is : Insts) (racc : List Entity), Closed racc → Closed (collectIs racc is) := by
  refine fun is racc => collectIs_inv (Q := fun _ => True) (fun _ _ _ _ => trivial) (fun t r _ h _ hch => ?_)
    is racc (fun _ _ => trivial)
  refine Closed.cons _ _ (fun i hi => ?_) h
  rw [emitEntity_insts] at hi
  obtain ⟨ca, hca, hent, _⟩ := emitInsts_mem t.insts 0 i hi
  rw [hent]
  exact hch ca.1 (instList_sub t.insts ca hca ca.1 (self_mem_subT _))

theorem collectT_closed (t : Tmpl) (racc : List Entity) : Closed racc → Closed (collectT racc t) :=
  collectIs_closed (.cons t [] .nil) racc

theorem Closed_split : ∀ (xs : List Entity) (e : Entity) (ys : List Entity), Closed (xs ++ e :: ys) →
    ∀ i ∈ e.insts, hasName ys i.entity = true
  | [], e, ys, h => by cases h with | cons _ _ h1 _ => exact h1
  | x :: xs, e, ys, h => by
      cases h with
      | cons _ _ _ h2 => exact Closed_split xs e ys h2

end CohdlVerif.C12
