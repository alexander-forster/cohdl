import CohdlVerif.Model.CoroCompile

/-! C01 - what one piece of the compiler mirror may touch: the summary `Step` of a translation step, its calculus
  (composition, weakening, heap-only steps), what `newBlock` / `append` / `addfront` / `itePre` do to a single block,
  and the steps of the `If` loop, the `continue` loop and `enterState`; at the end the specifications of a translation
  function: `BrSpec` (a branch / body), `JPost` (what is known while the first state is still empty), `CSpec`. -/
namespace CohdlVerif.C01

/-- a block is "in range" of a step from `s` (open blocks `O`) to `s'`: it was open or it is new;
    its root is the root of an open block or new -/
def InR (s : CSt) (O : List Nat) (s' : CSt) (o : Nat) : Prop :=
  (o ∈ O ∨ (s.next ≤ o ∧ o < s'.next)) ∧ (s'.root o ∈ O.map s.root ∨ (s.next ≤ s'.root o ∧ s'.root o < s'.next))

/-- every front transition targets an existing state -/
def TOK (s : CSt) : Prop := 0 < s.states.length ∧ ∀ b t, t ∈ (s.heap b).front → t < s.states.length

/-- structural summary of a piece of compilation from `(s, O)` to `(s', O')`.  `fresh` and `states_lt` are implications:
    they hold of `CSt.init` and are carried along, a step from an arbitrary `s` does not establish them. -/
structure Step (s : CSt) (O : List Nat) (s' : CSt) (O' : List Nat) : Prop where
  next_le : s.next ≤ s'.next
  frame : ∀ x, x < s.next → x ∉ O → s'.heap x = s.heap x
  items_mono : ∀ x, x < s.next → (s.heap x).items <+: (s'.heap x).items
  front_mono : ∀ x, x < s.next → (s.heap x).front <:+ (s'.heap x).front
  fresh : (∀ x, s.next ≤ x → s.heap x = {}) → ∀ x, s'.next ≤ x → s'.heap x = {}
  root_stable : ∀ x, x < s.next → s'.root x = s.root x
  states_mono : s.states <+: s'.states
  states_lt : (∀ r ∈ s.states, r < s.next) → ∀ r ∈ s'.states, r < s'.next
  open_r : ∀ o ∈ O', InR s O s' o
  brk_r : ∃ d, s'.brk = s.brk ++ d ∧ ∀ o ∈ d, InR s O s' o
  cont_r : ∃ d, s'.cont = s.cont ++ d ∧ ∀ o ∈ d, InR s O s' o
  ret_r : ∃ d, s'.ret = s.ret ++ d ∧ ∀ o ∈ d, InR s O s' o
  tgt : TOK s → TOK s'

/-- `l'` extends `l` by blocks that satisfy `P`: the shape of `brk_r`, `cont_r`, `ret_r` -/
def Adds (P : Nat → Prop) (l l' : List Nat) : Prop := ∃ d, l' = l ++ d ∧ ∀ o ∈ d, P o

theorem Adds.of_eq {P : Nat → Prop} {l l' : List Nat} (h : l' = l) : Adds P l l' :=
  ⟨[], by rw [h, List.append_nil], fun _ h => nomatch h⟩

theorem Adds.imp {P Q : Nat → Prop} {l l' : List Nat} (f : ∀ o, P o → Q o) : Adds P l l' → Adds Q l l'
  | ⟨d, e, r⟩ => ⟨d, e, fun o ho => f o (r o ho)⟩

theorem Adds.trans {P Q R : Nat → Prop} {l l1 l2 : List Nat} (f : ∀ o, P o → R o) (g : ∀ o, Q o → R o) :
    Adds P l l1 → Adds Q l1 l2 → Adds R l l2
  | ⟨d1, e1, r1⟩, ⟨d2, e2, r2⟩ => ⟨d1 ++ d2, by rw [e2, e1, List.append_assoc], fun o ho =>
      (List.mem_append.mp ho).elim (fun h => f o (r1 o h)) (fun h => g o (r2 o h))⟩

theorem Adds.of_nil {P : Nat → Prop} {l : List Nat} : Adds P [] l → ∀ o ∈ l, P o
  | ⟨d, e, r⟩ => by rw [e, List.nil_append]; exact r

/-- the blocks added are the rest of the longer list -/
theorem Adds.drop {P : Nat → Prop} {l l' : List Nat} : Adds P l l' →
    l' = l ++ l'.drop l.length ∧ ∀ o ∈ l'.drop l.length, P o
  | ⟨d, e, r⟩ => by rw [e, List.drop_left]; exact ⟨rfl, r⟩

theorem Adds.drop_trans {P Q : Nat → Prop} {l l1 l2 : List Nat} : Adds P l l1 → Adds Q l1 l2 →
    l2.drop l.length = l1.drop l.length ++ l2.drop l1.length
  | ⟨d1, e1, _⟩, ⟨d2, e2, _⟩ => by subst e1; subst e2; simp

/-- an open block that is not touched stays in range -/
theorem InR.ofMem {s s' : CSt} {O : List Nat} (hroot : ∀ x, x < s.next → s'.root x = s.root x)
    (hlt : ∀ o ∈ O, o < s.next) {o : Nat} (ho : o ∈ O) : InR s O s' o :=
  ⟨Or.inl ho, Or.inl (by rw [hroot o (hlt o ho)]; exact List.mem_map_of_mem ho)⟩

theorem Step.refl (s : CSt) (O : List Nat) : Step s O s O where
  next_le := Nat.le_refl _
  frame := fun _ _ _ => rfl
  items_mono := fun _ _ => List.prefix_refl _
  front_mono := fun _ _ => List.suffix_refl _
  fresh := fun h => h
  root_stable := fun _ _ => rfl
  states_mono := List.prefix_refl _
  states_lt := fun h => h
  open_r := fun _ ho => ⟨Or.inl ho, Or.inl (List.mem_map_of_mem ho)⟩
  brk_r := Adds.of_eq rfl
  cont_r := Adds.of_eq rfl
  ret_r := Adds.of_eq rfl
  tgt := fun h => h

theorem InR.lt {s s' : CSt} {O : List Nat} (hlt : ∀ o ∈ O, o < s.next) (hn : s.next ≤ s'.next) {o : Nat}
    (h : InR s O s' o) : o < s'.next := by
  rcases h.1 with h | h
  · have := hlt o h; omega
  · exact h.2

/-- blocks in range of the second step are in range of the composed step -/
theorem InR.trans {s s1 s' : CSt} {O O1 : List Nat} (h1 : Step s O s1 O1) (hn : s1.next ≤ s'.next) {o : Nat}
    (h : InR s1 O1 s' o) : InR s O s' o := by
  have hn1 := h1.next_le
  obtain ⟨ha, hb⟩ := h
  refine ⟨ha.elim (fun ha => (h1.open_r o ha).1.imp_right (fun h => ⟨h.1, by omega⟩)) (fun ha => Or.inr ⟨by omega, ha.2⟩),
    hb.elim (fun hb => ?_) (fun hb => Or.inr ⟨by omega, hb.2⟩)⟩
  obtain ⟨y, hy, hyr⟩ := List.mem_map.mp hb
  exact hyr ▸ (h1.open_r y hy).2.imp_right (fun h => ⟨h.1, by omega⟩)

/-- an earlier in-range block stays in range -/
theorem InR.mono {s s1 s' : CSt} {O : List Nat} (hn : s1.next ≤ s'.next)
    (hroot : ∀ x, x < s1.next → s'.root x = s1.root x) (hlt : ∀ o ∈ O, o < s.next) (hsn : s.next ≤ s1.next)
    {o : Nat} (h : InR s O s1 o) : InR s O s' o := by
  have ho := h.lt hlt hsn
  obtain ⟨ha, hb⟩ := h
  exact ⟨ha.imp_right (fun h => ⟨h.1, by omega⟩), by rw [hroot o ho]; exact hb.imp_right (fun h => ⟨h.1, by omega⟩)⟩

theorem Step.trans {s s1 s' : CSt} {O O1 O' : List Nat} (hlt : ∀ o ∈ O, o < s.next)
    (h1 : Step s O s1 O1) (h2 : Step s1 O1 s' O') : Step s O s' O' where
  next_le := Nat.le_trans h1.next_le h2.next_le
  frame := fun x hx hxO => (h2.frame x (Nat.lt_of_lt_of_le hx h1.next_le)
    (fun hx1 => (h1.open_r x hx1).1.elim hxO (fun h => Nat.not_lt.mpr h.1 hx))).trans (h1.frame x hx hxO)
  items_mono := fun x hx => (h1.items_mono x hx).trans (h2.items_mono x (Nat.lt_of_lt_of_le hx h1.next_le))
  front_mono := fun x hx => (h1.front_mono x hx).trans (h2.front_mono x (Nat.lt_of_lt_of_le hx h1.next_le))
  fresh := fun h => h2.fresh (h1.fresh h)
  root_stable := fun x hx => (h2.root_stable x (Nat.lt_of_lt_of_le hx h1.next_le)).trans (h1.root_stable x hx)
  states_mono := h1.states_mono.trans h2.states_mono
  states_lt := fun h => h2.states_lt (h1.states_lt h)
  open_r := fun o ho => InR.trans h1 h2.next_le (h2.open_r o ho)
  brk_r := Adds.trans (fun _ => InR.mono h2.next_le h2.root_stable hlt h1.next_le) (fun _ => InR.trans h1 h2.next_le)
    h1.brk_r h2.brk_r
  cont_r := Adds.trans (fun _ => InR.mono h2.next_le h2.root_stable hlt h1.next_le) (fun _ => InR.trans h1 h2.next_le)
    h1.cont_r h2.cont_r
  ret_r := Adds.trans (fun _ => InR.mono h2.next_le h2.root_stable hlt h1.next_le) (fun _ => InR.trans h1 h2.next_le)
    h1.ret_r h2.ret_r
  tgt := fun h => h2.tgt (h1.tgt h)

/-- only the heap changes, only at blocks of `O`, only by appending items / inserting front transitions -/
structure HeapExt (s s' : CSt) (O : List Nat) : Prop where
  next_eq : s'.next = s.next
  root_eq : s'.root = s.root
  states_eq : s'.states = s.states
  brk_eq : s'.brk = s.brk
  cont_eq : s'.cont = s.cont
  ret_eq : s'.ret = s.ret
  bad_eq : s'.bad = s.bad
  frame : ∀ x, x ∉ O → s'.heap x = s.heap x
  items_mono : ∀ x, (s.heap x).items <+: (s'.heap x).items
  front_mono : ∀ x, (s.heap x).front <:+ (s'.heap x).front
  tgt : TOK s → TOK s'

theorem HeapExt.refl (s : CSt) (O : List Nat) : HeapExt s s O :=
  ⟨rfl, rfl, rfl, rfl, rfl, rfl, rfl, fun _ _ => rfl, fun _ => List.prefix_refl _, fun _ => List.suffix_refl _, fun h => h⟩

theorem HeapExt.trans {s s1 s2 : CSt} {O : List Nat} (h1 : HeapExt s s1 O) (h2 : HeapExt s1 s2 O) : HeapExt s s2 O :=
  ⟨h2.next_eq.trans h1.next_eq, h2.root_eq.trans h1.root_eq, h2.states_eq.trans h1.states_eq,
   h2.brk_eq.trans h1.brk_eq, h2.cont_eq.trans h1.cont_eq, h2.ret_eq.trans h1.ret_eq, h2.bad_eq.trans h1.bad_eq,
   fun x hx => (h2.frame x hx).trans (h1.frame x hx),
   fun x => (h1.items_mono x).trans (h2.items_mono x), fun x => (h1.front_mono x).trans (h2.front_mono x),
   fun h => h2.tgt (h1.tgt h)⟩

/-- block `b` of `O` is replaced by a block `B` with more items / more front transitions to existing states -/
theorem HeapExt.update (s : CSt) (O : List Nat) (b : Nat) (hb : b ∈ O) (B : Blk) (hi : (s.heap b).items <+: B.items)
    (hf : (s.heap b).front <:+ B.front)
    (ht : ∀ t ∈ B.front, t ∈ (s.heap b).front ∨ (0 < s.states.length → t < s.states.length)) :
    HeapExt s { s with heap := fun x => if x = b then B else s.heap x } O := by
  refine ⟨rfl, rfl, rfl, rfl, rfl, rfl, rfl, ?_, ?_, ?_, ?_⟩
  · intro x hx
    have hne : x ≠ b := fun h => hx (h ▸ hb)
    exact if_neg hne
  · intro x
    show _ <+: (if x = b then B else s.heap x).items
    split
    · rename_i h; rw [h]; exact hi
    · exact List.prefix_refl _
  · intro x
    show _ <:+ (if x = b then B else s.heap x).front
    split
    · rename_i h; rw [h]; exact hf
    · exact List.suffix_refl _
  · intro ⟨h0, h⟩
    refine ⟨h0, fun x t ht' => ?_⟩
    have ht' : t ∈ (if x = b then B else s.heap x).front := ht'
    split at ht'
    · exact (ht t ht').elim (h b t) (fun g => g h0)
    · exact h x t ht'

theorem HeapExt.append (s : CSt) (O : List Nat) (b : Nat) (hb : b ∈ O) (it : Item) : HeapExt s (s.append b it) O :=
  HeapExt.update s O b hb _ (List.prefix_append _ _) (List.suffix_refl _) (fun _ h => Or.inl h)

theorem HeapExt.addfront (s : CSt) (O : List Nat) (b : Nat) (hb : b ∈ O) (t : Nat)
    (htg : 0 < s.states.length → t < s.states.length) : HeapExt s (s.addfront b t) O :=
  HeapExt.update s O b hb _ (List.prefix_refl _) (List.suffix_cons _ _)
    (fun _ h => (List.mem_cons.mp h).elim (fun e => Or.inr (e ▸ htg)) Or.inl)

theorem HeapExt.appendAll (O : List Nat) (it : Item) : ∀ (bs : List Nat) (s : CSt), (∀ b ∈ bs, b ∈ O) →
    HeapExt s (s.appendAll bs it) O := by
  intro bs
  induction bs with
  | nil => intro s _; exact HeapExt.refl s O
  | cons b bs ih =>
    intro s h
    exact (HeapExt.append s O b (h b (List.mem_cons_self ..)) it).trans (ih _ (fun x hx => h x (List.mem_cons_of_mem _ hx)))

theorem HeapExt.addfrontAll (O : List Nat) (t : Nat) : ∀ (bs : List Nat) (s : CSt), (∀ b ∈ bs, b ∈ O) →
    (0 < s.states.length → t < s.states.length) → HeapExt s (s.addfrontAll bs t) O := by
  intro bs
  induction bs with
  | nil => intro s _ _; exact HeapExt.refl s O
  | cons b bs ih =>
    intro s h htg
    exact (HeapExt.addfront s O b (h b (List.mem_cons_self ..)) t htg).trans
      (ih _ (fun x hx => h x (List.mem_cons_of_mem _ hx)) htg)

theorem HeapExt.step {s s' : CSt} {O : List Nat} (hlt : ∀ o ∈ O, o < s.next) (h : HeapExt s s' O) : Step s O s' O := by
  -- taken apart, `s'` is `s` with another heap
  obtain ⟨_, _, _, _, _, _, _, _⟩ := s'
  obtain ⟨rfl, rfl, rfl, rfl, rfl, rfl, rfl, fr, im, fm, tg⟩ := h
  exact { Step.refl s O with
    frame := fun x _ hx => fr x hx
    items_mono := fun x _ => im x
    front_mono := fun x _ => fm x
    fresh := fun hf x (hx : s.next ≤ x) => by rw [fr x (fun hO => by have := hlt x hO; omega)]; exact hf x hx
    tgt := tg }

/-- the break / continue / return lists are the same -/
def SameLists (a b : CSt) : Prop := b.brk = a.brk ∧ b.cont = a.cont ∧ b.ret = a.ret

theorem SameLists.refl (a : CSt) : SameLists a a := ⟨rfl, rfl, rfl⟩

theorem SameLists.trans {a b c : CSt} (h1 : SameLists a b) (h2 : SameLists b c) : SameLists a c :=
  ⟨h2.1.trans h1.1, h2.2.1.trans h1.2.1, h2.2.2.trans h1.2.2⟩

theorem HeapExt.sameLists {s s' : CSt} {O : List Nat} (h : HeapExt s s' O) : SameLists s s' :=
  ⟨h.brk_eq, h.cont_eq, h.ret_eq⟩

/-- two states that differ only in the lists `brk`, `cont`, `ret` and the flag `bad`; `InR` does not see the difference -/
def SameCore (a a' : CSt) : Prop := a'.heap = a.heap ∧ a'.next = a.next ∧ a'.root = a.root ∧ a'.states = a.states

theorem SameCore.symm {a a' : CSt} (h : SameCore a a') : SameCore a' a :=
  ⟨h.1.symm, h.2.1.symm, h.2.2.1.symm, h.2.2.2.symm⟩

/-- stated for the literal shape so that it applies without unfolding what `a` stands for -/
theorem SameCore.setLists (a : CSt) (b c r : List Nat) : SameCore a { a with brk := b, cont := c, ret := r } :=
  ⟨rfl, rfl, rfl, rfl⟩

theorem InR.same {a a' b b' : CSt} {O : List Nat} (ha : SameCore a a') (hb : SameCore b b') {o : Nat}
    (h : InR a O b o) : InR a' O b' o := by
  obtain ⟨_, han, har, _⟩ := ha
  obtain ⟨_, hbn, hbr, _⟩ := hb
  unfold InR
  rw [han, har, hbn, hbr]
  exact h

/-- a step between states with other lists, when the lists are accounted for separately -/
theorem Step.relist {a a' b b' : CSt} {O O' : List Nat} (ha : SameCore a a') (hb : SameCore b b') (h : Step a O b O')
    (hbrk : Adds (InR a O b) a'.brk b'.brk) (hcont : Adds (InR a O b) a'.cont b'.cont)
    (hret : Adds (InR a O b) a'.ret b'.ret) : Step a' O b' O' := by
  -- taken apart, the states agree literally in every field that `Step` reads except the three lists
  obtain ⟨_, _, _, _, _, _, _, _⟩ := a'
  obtain ⟨_, _, _, _, _, _, _, _⟩ := b'
  obtain ⟨rfl, rfl, rfl, rfl⟩ := ha
  obtain ⟨rfl, rfl, rfl, rfl⟩ := hb
  exact { h with brk_r := hbrk, cont_r := hcont, ret_r := hret }

theorem InR.weakenO {s s' : CSt} {O1 O : List Nat} (hO : ∀ o ∈ O1, o ∈ O) {o : Nat} (h : InR s O1 s' o) :
    InR s O s' o := by
  obtain ⟨ha, hb⟩ := h
  refine ⟨ha.imp (hO o) id, hb.imp ?_ id⟩
  intro hm
  obtain ⟨y, hy, hyr⟩ := List.mem_map.mp hm
  exact List.mem_map.mpr ⟨y, hO y hy, hyr⟩

/-- the open list before may be enlarged, the open list after replaced by any list of in-range blocks -/
theorem Step.weaken {s s' : CSt} {O1 O1' O O' : List Nat} (h : Step s O1 s' O1') (hO : ∀ o ∈ O1, o ∈ O)
    (hO' : ∀ o ∈ O', InR s O s' o) : Step s O s' O' :=
  { h with
    frame := fun x hx hxO => h.frame x hx (fun h1 => hxO (hO x h1))
    open_r := hO'
    brk_r := Adds.imp (fun _ => InR.weakenO hO) h.brk_r
    cont_r := Adds.imp (fun _ => InR.weakenO hO) h.cont_r
    ret_r := Adds.imp (fun _ => InR.weakenO hO) h.ret_r }

/-- blocks left open may be forgotten -/
theorem Step.shrink {s s' : CSt} {O O1' O' : List Nat} (h : Step s O s' O1') (hO' : ∀ o ∈ O', o ∈ O1') : Step s O s' O' :=
  h.weaken (fun _ h => h) (fun o ho => h.open_r o (hO' o ho))

/-- a step on some of the open blocks `O`; open afterwards: blocks of `O` and blocks in range of the step -/
theorem Step.widen {s s' : CSt} {O1 O1' O O' : List Nat} (h : Step s O1 s' O1') (hO : ∀ o ∈ O1, o ∈ O)
    (hlt : ∀ o ∈ O, o < s.next) (hO' : ∀ o ∈ O', o ∈ O ∨ InR s O1 s' o) : Step s O s' O' :=
  h.weaken hO (fun o ho => (hO' o ho).elim (InR.ofMem h.root_stable hlt) (InR.weakenO hO))

theorem CSt.newBlock_heap_old (s : CSt) (p : Option Nat) {x : Nat} (h : x ≠ s.next) : (s.newBlock p).2.heap x = s.heap x :=
  if_neg h

theorem CSt.newBlock_heap_new (s : CSt) (p : Option Nat) : (s.newBlock p).2.heap s.next = {} := if_pos rfl

theorem CSt.newBlock_root_old (s : CSt) (p : Option Nat) {x : Nat} (h : x ≠ s.next) : (s.newBlock p).2.root x = s.root x :=
  if_neg h

theorem CSt.newBlock_root_new (s : CSt) (p : Option Nat) :
    (s.newBlock p).2.root s.next = match p with | none => s.next | some p => s.root p := if_pos rfl

theorem CSt.append_heap_self (s : CSt) (b : Nat) (it : Item) :
    (s.append b it).heap b = { s.heap b with items := (s.heap b).items ++ [it] } := if_pos rfl

theorem CSt.append_heap_ne (s : CSt) {b x : Nat} (it : Item) (h : x ≠ b) : (s.append b it).heap x = s.heap x := if_neg h

theorem CSt.addfront_heap_self (s : CSt) (b t : Nat) :
    (s.addfront b t).heap b = { s.heap b with front := t :: (s.heap b).front } := if_pos rfl

theorem CSt.addfront_heap_ne (s : CSt) {b x : Nat} (t : Nat) (h : x ≠ b) : (s.addfront b t).heap x = s.heap x := if_neg h

theorem append_items (s : CSt) (x : Nat) (it : Item) : ((s.append x it).heap x).items = (s.heap x).items ++ [it] := by
  rw [CSt.append_heap_self]

theorem append_front (s : CSt) (x y : Nat) (it : Item) : ((s.append x it).heap y).front = (s.heap y).front := by
  by_cases h : y = x
  · subst h; rw [CSt.append_heap_self]
  · rw [CSt.append_heap_ne s it h]

theorem Step.newBlock (s : CSt) (O : List Nat) (hlt : ∀ o ∈ O, o < s.next) (parent : Option Nat)
    (hp : ∀ p, parent = some p → p ∈ O) : Step s O (s.newBlock parent).2 (s.next :: O) := by
  have hh : ∀ x, x < s.next → (s.newBlock parent).2.heap x = s.heap x := fun x hx =>
    CSt.newBlock_heap_old s parent (Nat.ne_of_lt hx)
  have hr : ∀ x, x < s.next → (s.newBlock parent).2.root x = s.root x := fun x hx =>
    CSt.newBlock_root_old s parent (Nat.ne_of_lt hx)
  refine ⟨Nat.le_succ _, fun x hx _ => hh x hx, fun x hx => by rw [hh x hx]; exact List.prefix_refl _,
    fun x hx => by rw [hh x hx]; exact List.suffix_refl _, ?_, hr, List.prefix_refl _,
    fun hs r hr => Nat.lt_succ_of_lt (hs r hr), ?_, Adds.of_eq rfl, Adds.of_eq rfl, Adds.of_eq rfl, ?_⟩
  · intro hf x hx
    have hx : s.next + 1 ≤ x := hx
    rw [CSt.newBlock_heap_old s parent (by omega)]
    exact hf x (by omega)
  · intro o ho
    rcases List.mem_cons.mp ho with h | h
    · subst h
      refine ⟨Or.inr ⟨Nat.le_refl _, Nat.lt_succ_self _⟩, ?_⟩
      rw [CSt.newBlock_root_new]
      cases parent with
      | none => exact Or.inr ⟨Nat.le_refl _, Nat.lt_succ_self _⟩
      | some p => exact Or.inl (List.mem_map_of_mem (hp p rfl))
    · exact InR.ofMem hr hlt h
  · intro ⟨h0, h⟩
    refine ⟨h0, fun x t ht => ?_⟩
    by_cases hx : x = s.next
    · subst hx; rw [CSt.newBlock_heap_new] at ht; exact absurd ht List.not_mem_nil
    · exact h x t (by rwa [CSt.newBlock_heap_old s parent hx] at ht)

theorem Step.addState (s : CSt) (O : List Nat) (nb : Nat) (hnb : nb < s.next) :
    Step s O { s with states := s.states ++ [nb] } O :=
  { Step.refl s O with
    states_mono := List.prefix_append _ _
    states_lt := fun hs r hr => (List.mem_append.mp hr).elim (hs r) (fun h => List.mem_singleton.mp h ▸ hnb)
    tgt := fun ⟨_, h⟩ => ⟨by simp, fun x t ht => by
      have := h x t ht
      simp only [List.length_append, List.length_cons, List.length_nil]; omega⟩ }

/-- `break` / `continue` / `return`: the open blocks move to one of the lists -/
theorem Step.toLists (s : CSt) (O : List Nat) {b c r : List Nat} (hb : b = s.brk ∨ b = s.brk ++ O)
    (hc : c = s.cont ∨ c = s.cont ++ O) (hr : r = s.ret ∨ r = s.ret ++ O) :
    Step s O { s with brk := b, cont := c, ret := r } [] := by
  have mv : ∀ {l l' : List Nat}, l' = l ∨ l' = l ++ O → Adds (InR s O s) l l' := fun h =>
    h.elim Adds.of_eq (fun e => ⟨O, e, (Step.refl s O).open_r⟩)
  exact Step.relist ⟨rfl, rfl, rfl, rfl⟩ (SameCore.setLists s b c r) ((Step.refl s O).shrink (fun _ h => nomatch h))
    (mv hb) (mv hc) (mv hr)

/-- where a block in range of a step on the single block `x` lies -/
theorem InR.range1 {s s' : CSt} {x y : Nat} (h : InR s [x] s' y) (hx : x < s.next) (hn : s.next ≤ s'.next) :
    (y = x ∨ s.next ≤ y) ∧ y < s'.next := by
  rcases h.1 with h | h
  · exact ⟨Or.inl (List.mem_singleton.mp h), by rw [List.mem_singleton.mp h]; omega⟩
  · exact ⟨Or.inr h.1, h.2⟩

theorem mem_insId (acc : List Nat) (x y : Nat) : y ∈ insId acc x ↔ y ∈ acc ∨ y = x := by
  unfold insId
  split
  · rename_i h
    exact (or_iff_left_of_imp (fun e => e ▸ List.contains_iff_mem.mp h)).symm
  · simp

theorem mem_insIds (xs : List Nat) : ∀ (acc : List Nat) (y : Nat), y ∈ insIds acc xs ↔ y ∈ acc ∨ y ∈ xs := by
  induction xs with
  | nil => intro acc y; simp [insIds]
  | cons x xs ih =>
    intro acc y
    simp only [insIds, List.foldl_cons] at ih ⊢
    rw [ih, mem_insId]
    simp only [List.mem_cons, or_assoc]

/-- `Hlt`: all open blocks exist, block 0 exists -/
def Hlt (s : CSt) (O : List Nat) : Prop := (∀ o ∈ O, o < s.next) ∧ 0 < s.next

theorem Step.hlt {s s' : CSt} {O O' : List Nat} (h : Step s O s' O') (hl : Hlt s O) : Hlt s' O' :=
  ⟨fun o ho => InR.lt hl.1 h.next_le (h.open_r o ho), by have := h.next_le; have := hl.2; omega⟩

theorem atStart_false_of_items {s : CSt} (h : (s.heap 0).items ≠ []) : s.atStart = false := by
  simp only [CSt.atStart, Bool.and_eq_false_iff, List.isEmpty_eq_false_iff]
  exact Or.inr h

/-- once the first state is used it stays used -/
theorem atStart_false_of_mono {s s' : CSt} (hf : (s.heap 0).front <:+ (s'.heap 0).front)
    (hi : (s.heap 0).items <+: (s'.heap 0).items) (hs : s.atStart = false) : s'.atStart = false := by
  simp only [CSt.atStart, Bool.and_eq_false_iff, List.isEmpty_eq_false_iff] at hs ⊢
  exact hs.imp hf.ne_nil hi.ne_nil

theorem Step.atStart_false {s s' : CSt} {O O' : List Nat} (h : Step s O s' O') (h0 : 0 < s.next)
    (hs : s.atStart = false) : s'.atStart = false :=
  atStart_false_of_mono (h.front_mono 0 h0) (h.items_mono 0 h0) hs

theorem append_atStart (s : CSt) (x : Nat) (it : Item) (hs : s.atStart = true → x = 0) :
    (s.append x it).atStart = false := by
  cases hst : s.atStart with
  | true =>
    have := hs hst; subst this
    exact atStart_false_of_items (by rw [append_items]; simp)
  | false =>
    have h := HeapExt.append s [x] x (List.mem_singleton.mpr rfl) it
    exact atStart_false_of_mono (h.front_mono 0) (h.items_mono 0) hst

/-- the five-way merge of the `If` branch -/
def mergeAcc (acc : List Nat) (b tb eb : Nat) (ot oe : List Nat) : List Nat :=
  if !anyTrans tb ot && !anyTrans eb oe then insId acc b
  else if allTrans tb ot && allTrans eb oe then insIds acc (ot ++ oe)
  else if !anyTrans tb ot then insIds (insId acc tb) oe
  else if !anyTrans eb oe then insIds (insId acc eb) ot
  else insIds acc (ot ++ oe)

/-- state after creating the two branch blocks of an `If` in block `b` and appending the `If` -/
def itePre (c : Nat) (b : Nat) (s : CSt) : CSt :=
  ((s.newBlock (some b)).2.newBlock (some b)).2.append b (.ite c s.next (s.next + 1))

theorem iteLoop_cons (c : Nat) (ft fe : List Nat → CSt → List Nat × CSt) (b : Nat) (bs : List Nat) (s : CSt)
    (acc : List Nat) :
    iteLoop c ft fe (b :: bs) s acc =
      iteLoop c ft fe bs (fe [s.next + 1] (ft [s.next] (itePre c b s)).2).2
        (mergeAcc acc b s.next (s.next + 1) (ft [s.next] (itePre c b s)).1
          (fe [s.next + 1] (ft [s.next] (itePre c b s)).2).1) := rfl

/-- no transition: the open blocks after a branch are the branch block itself (`not any_transition`) -/
def NoTr (x : Nat) (O' : List Nat) : Prop := O' ≠ [] ∧ ∀ y ∈ O', y = x

theorem anyTrans_false_iff (x : Nat) (O' : List Nat) : anyTrans x O' = false ↔ NoTr x O' := by
  simp only [anyTrans, NoTr, Bool.or_eq_false_iff, List.isEmpty_eq_false_iff, List.any_eq_false, bne_iff_ne, ne_eq,
    Decidable.not_not]

theorem NoTr.mem {x : Nat} {O' : List Nat} (h : NoTr x O') : x ∈ O' := by
  obtain ⟨h1, h2⟩ := h
  cases O' with
  | nil => exact absurd rfl h1
  | cons y ys => have := h2 y (by simp); subst this; simp

/-- the blocks kept by the merge: the parent when neither branch set a transition, else the open blocks of both -/
theorem mem_mergeAcc_iff (acc : List Nat) (b tb eb : Nat) (ot oe : List Nat) (y : Nat) :
    y ∈ mergeAcc acc b tb eb ot oe ↔
      y ∈ acc ∨ (if anyTrans tb ot = false ∧ anyTrans eb oe = false then y = b else y ∈ ot ∨ y ∈ oe) := by
  -- a branch without transition has its own block as only open block
  have key : ∀ x O', (!anyTrans x O') = true → (y ∈ O' ↔ y = x) := fun x O' h =>
    have hn := (anyTrans_false_iff x O').mp (by simpa using h)
    ⟨hn.2 y, fun e => e ▸ hn.mem⟩
  unfold mergeAcc
  by_cases hc : anyTrans tb ot = false ∧ anyTrans eb oe = false
  · rw [if_pos hc, if_pos (by simp [hc.1, hc.2]), mem_insId]
  · rw [if_neg hc, if_neg (by simpa using hc)]
    split
    · rw [mem_insIds, List.mem_append]
    · split
      · rename_i h3
        rw [mem_insIds, mem_insId, key tb ot h3, or_assoc]
      · split
        · rename_i h4
          rw [mem_insIds, mem_insId, key eb oe h4, or_assoc, or_comm (a := y = eb)]
        · rw [mem_insIds, List.mem_append]

theorem mem_mergeAcc {acc : List Nat} {b tb eb : Nat} {ot oe : List Nat} {o : Nat}
    (h : o ∈ mergeAcc acc b tb eb ot oe) : o ∈ acc ∨ o = b ∨ o ∈ ot ∨ o ∈ oe := by
  rcases (mem_mergeAcc_iff ..).mp h with h | h
  · exact Or.inl h
  · split at h
    · exact Or.inr (Or.inl h)
    · exact Or.inr (Or.inr h)

theorem itePre_step (c b : Nat) (s : CSt) (hb : b < s.next) :
    Step s [b] (itePre c b s) [s.next + 1, s.next, b] := by
  have hl : Hlt s [b] := ⟨fun o ho => List.mem_singleton.mp ho ▸ hb, by omega⟩
  have h1 := Step.newBlock s [b] hl.1 (some b) (by simp)
  have hl1 := h1.hlt hl
  have h2 := Step.newBlock _ _ hl1.1 (some b) (by simp)
  have h3 := (HeapExt.append _ [s.next + 1, s.next, b] b (by simp) (.ite c s.next (s.next + 1))).step (h2.hlt hl1).1
  exact (h1.trans hl.1 h2).trans hl.1 h3

/-- the heap after `itePre`: the parent has the `If`, the two branch blocks are empty -/
theorem itePre_heap (c b : Nat) (s : CSt) (hb : b < s.next) (x : Nat) :
    (itePre c b s).heap x =
      if x = b then { s.heap b with items := (s.heap b).items ++ [.ite c s.next (s.next + 1)] }
      else if x = s.next + 1 then {} else if x = s.next then {} else s.heap x := by
  unfold itePre
  by_cases h : x = b
  · subst h
    rw [CSt.append_heap_self, if_pos rfl, CSt.newBlock_heap_old _ _ (show x ≠ s.next + 1 by omega),
      CSt.newBlock_heap_old _ _ (show x ≠ s.next by omega)]
  · rw [CSt.append_heap_ne _ _ h, if_neg h]
    rfl

theorem itePre_parent_heap (c b : Nat) (s : CSt) (hb : b < s.next) :
    (itePre c b s).heap b = { s.heap b with items := (s.heap b).items ++ [.ite c s.next (s.next + 1)] } := by
  rw [itePre_heap c b s hb, if_pos rfl]

theorem itePre_front_parent (c b : Nat) (s : CSt) (hb : b < s.next) :
    ((itePre c b s).heap b).front = (s.heap b).front := by
  rw [itePre_parent_heap c b s hb]

theorem itePre_child_heap (c b : Nat) (s : CSt) (hb : b < s.next) : (itePre c b s).heap s.next = {} := by
  rw [itePre_heap c b s hb, if_neg (by omega), if_neg (by omega), if_pos rfl]

theorem itePre_child2_heap (c b : Nat) (s : CSt) (hb : b < s.next) : (itePre c b s).heap (s.next + 1) = {} := by
  rw [itePre_heap c b s hb, if_neg (by omega), if_pos rfl]

/-- without `b < s.next`: the `If` is appended to `b`, which leaves every front alone -/
theorem itePre_child_front (c b : Nat) (s : CSt) : ((itePre c b s).heap s.next).front = [] := by
  unfold itePre
  rw [append_front, CSt.newBlock_heap_old _ _ (Nat.ne_of_lt (Nat.lt_succ_self s.next)), CSt.newBlock_heap_new]

theorem itePre_child2_front (c b : Nat) (s : CSt) : ((itePre c b s).heap (s.next + 1)).front = [] := by
  unfold itePre
  rw [append_front]
  exact congrArg Blk.front (CSt.newBlock_heap_new (s.newBlock (some b)).2 (some b))

theorem itePre_next (c b : Nat) (s : CSt) : (itePre c b s).next = s.next + 2 := rfl

theorem itePre_bad (c b : Nat) (s : CSt) : (itePre c b s).bad = s.bad := rfl

theorem itePre_sameLists (c b : Nat) (s : CSt) : SameLists s (itePre c b s) := ⟨rfl, rfl, rfl⟩

theorem itePre_child_root (c b : Nat) (s : CSt) : (itePre c b s).root s.next = s.root b := by
  show ((s.newBlock (some b)).2.newBlock (some b)).2.root s.next = s.root b
  rw [CSt.newBlock_root_old _ _ (Nat.ne_of_lt (Nat.lt_succ_self s.next)), CSt.newBlock_root_new]

theorem itePre_atStart (c b : Nat) (s : CSt) (hb : b < s.next) (h0 : 0 < s.next) (hs : s.atStart = true → b = 0) :
    (itePre c b s).atStart = false := by
  cases hst : s.atStart with
  | true =>
    have := hs hst; subst this
    apply atStart_false_of_items
    rw [itePre_parent_heap c 0 s hb]; simp
  | false => exact (itePre_step c b s hb).atStart_false h0 hst

/-- what the loops need to know about the translation of a branch / body -/
def BrSpec (f : List Nat → CSt → List Nat × CSt) : Prop :=
  ∀ O s, Hlt s O → s.atStart = false → Step s O (f O s).2 (f O s).1

/-- one iteration of the `If` loop -/
theorem iteIter_step (c : Nat) (ft fe : List Nat → CSt → List Nat × CSt) (hft : BrSpec ft) (hfe : BrSpec fe)
    (b : Nat) (s : CSt) (hb : b < s.next) (h0 : 0 < s.next) (hs : s.atStart = true → b = 0) :
    Step s [b] (fe [s.next + 1] (ft [s.next] (itePre c b s)).2).2
      (s.next :: (s.next + 1) :: b :: ((ft [s.next] (itePre c b s)).1 ++ (fe [s.next + 1] (ft [s.next] (itePre c b s)).2).1))
    ∧ (fe [s.next + 1] (ft [s.next] (itePre c b s)).2).2.atStart = false := by
  have hlb : ∀ o ∈ [b], o < s.next := by simpa using hb
  have T1 := itePre_step c b s hb
  have hA1 := itePre_atStart c b s hb h0 hs
  have hl3 := T1.hlt ⟨hlb, h0⟩
  have F := hft [s.next] (itePre c b s) ⟨fun o ho => hl3.1 o (by simp at ho; simp [ho]), hl3.2⟩ hA1
  have hA2 := F.atStart_false hl3.2 hA1
  have T12 := T1.trans hlb (F.widen (by simp) hl3.1 (fun o ho => (List.mem_append.mp ho).imp_right (F.open_r o)))
  have hl4 := T12.hlt ⟨hlb, h0⟩
  have G := hfe [s.next + 1] (ft [s.next] (itePre c b s)).2 ⟨fun o ho => hl4.1 o (by simp at ho; simp [ho]), hl4.2⟩ hA2
  refine ⟨T12.trans hlb (G.widen (by simp) hl4.1 fun o ho => Or.imp_right (G.open_r o) ?_), G.atStart_false hl4.2 hA2⟩
  simp only [List.mem_cons, List.mem_append, List.not_mem_nil, or_false] at ho ⊢
  rcases ho with h | h | h | h | h <;> simp [h]

/-- an iteration `T` on the first open block, then the rest of a loop over the open blocks that collects in an
    accumulator the blocks it leaves open -/
theorem Step.loop {s s1 s2 : CSt} {b : Nat} {bs L acc acc1 R : List Nat} (hl : Hlt s (b :: bs)) (T : Step s [b] s1 L)
    (hacc : ∀ o ∈ acc1, o ∈ acc ∨ o ∈ L)
    (ih : Hlt s1 bs → Step s1 bs s2 [] ∧ ∀ o ∈ R, o ∈ acc1 ∨ InR s1 bs s2 o) :
    Hlt s1 bs ∧ Step s (b :: bs) s2 [] ∧ ∀ o ∈ R, o ∈ acc ∨ InR s (b :: bs) s2 o := by
  have TW : Step s (b :: bs) s1 (b :: bs) := T.widen (by simp) hl.1 (fun o ho => Or.inl ho)
  have hl1 : Hlt s1 bs := ⟨fun o ho => (TW.hlt hl).1 o (List.mem_cons_of_mem _ ho), (TW.hlt hl).2⟩
  obtain ⟨S, hmem⟩ := ih hl1
  have SW : Step s1 (b :: bs) s2 [] := S.weaken (fun x hx => List.mem_cons_of_mem _ hx) (fun _ h => nomatch h)
  refine ⟨hl1, TW.trans hl.1 SW, fun o ho => ?_⟩
  rcases hmem o ho with h | h
  · rcases hacc o h with h | h
    · exact Or.inl h
    · exact Or.inr (InR.mono S.next_le S.root_stable hl.1 TW.next_le (InR.weakenO (by simp) (T.open_r o h)))
  · exact Or.inr (InR.trans TW S.next_le (InR.weakenO (fun x hx => List.mem_cons_of_mem _ hx) h))

theorem iteLoop_step (c : Nat) (ft fe : List Nat → CSt → List Nat × CSt) (hft : BrSpec ft) (hfe : BrSpec fe) :
    ∀ (bs : List Nat) (s : CSt) (acc : List Nat), Hlt s bs → (s.atStart = true → bs = [0]) →
      Step s bs (iteLoop c ft fe bs s acc).2 [] ∧
      (∀ o ∈ (iteLoop c ft fe bs s acc).1, o ∈ acc ∨ InR s bs (iteLoop c ft fe bs s acc).2 o) ∧
      (bs ≠ [] → (iteLoop c ft fe bs s acc).2.atStart = false) := by
  intro bs
  induction bs with
  | nil =>
    intro s acc _ _
    exact ⟨Step.refl s [], fun o ho => Or.inl ho, fun h => absurd rfl h⟩
  | cons b bs ih =>
    intro s acc hl hs
    rw [iteLoop_cons]
    obtain ⟨T, hA⟩ := iteIter_step c ft fe hft hfe b s (hl.1 b (by simp)) hl.2
      (fun h => (List.cons.inj (hs h)).1)
    have hst : (fe [s.next + 1] (ft [s.next] (itePre c b s)).2).2.atStart = true → bs = [0] :=
      fun h => by rw [hA] at h; cases h
    obtain ⟨hl5, S, hm⟩ := Step.loop hl T
      (fun o ho => (mem_mergeAcc ho).imp_right (fun h => by
        simp only [List.mem_cons, List.mem_append]; exact Or.inr (Or.inr h)))
      (fun hl5 => ⟨(ih _ _ hl5 hst).1, (ih _ _ hl5 hst).2.1⟩)
    exact ⟨S, hm, fun _ => (ih _ _ hl5 hst).1.atStart_false hl5.2 hA⟩

/-- one iteration of the `continue` loop on block `cb`: the state after it and the blocks it opens -/
def contStep (c : Option Nat) (body cb : Nat) (s : CSt) : CSt × List Nat :=
  if s.root cb = s.root body then ({ s with bad := true }, [])
  else match c with
    | none => (s.append cb (.sub body), [])
    | some c' => ((s.newBlock (some cb)).2.append cb (.ite c' body s.next), [s.next])

theorem contLoop_cons (c : Option Nat) (body cb : Nat) (cbs : List Nat) (s : CSt) (acc : List Nat) :
    contLoop c body (cb :: cbs) s acc =
      contLoop c body cbs (contStep c body cb s).1 (acc ++ (contStep c body cb s).2) := by
  unfold contStep
  by_cases h : s.root cb = s.root body
  · simp only [contLoop, if_pos h, List.append_nil]
  · cases c <;> simp only [contLoop, if_neg h, List.append_nil] <;> rfl

theorem contStep_sameLists (c : Option Nat) (body cb : Nat) (s : CSt) : SameLists s (contStep c body cb s).1 := by
  unfold contStep
  split
  · exact ⟨rfl, rfl, rfl⟩
  · cases c <;> exact ⟨rfl, rfl, rfl⟩

theorem contStep_bad (c : Option Nat) (body cb : Nat) (s : CSt) (h : (contStep c body cb s).1.bad = false) :
    s.bad = false := by
  unfold contStep at h
  split at h
  · exact Bool.noConfusion h
  · cases c <;> exact h

/-- the item appended to a `continue` block; a new break block is among `news` and not among `old` -/
def ContItem (c : Option Nat) (body : Nat) (news old : List Nat) (it : Item) : Prop :=
  match c with
  | none => it = .sub body
  | some c' => ∃ bb, bb ∈ news ∧ bb ∉ old ∧ it = .ite c' body bb

theorem ContItem.mono {c : Option Nat} {body : Nat} {news old news' old' : List Nat} {it : Item}
    (h : ContItem c body news old it) (hn : ∀ y ∈ news, y ∉ old → y ∈ news' ∧ y ∉ old') :
    ContItem c body news' old' it := by
  cases c with
  | none => exact h
  | some c' =>
    obtain ⟨bb, h1, h2, h3⟩ := h
    exact ⟨bb, (hn bb h1 h2).1, (hn bb h1 h2).2, h3⟩

/-- one iteration of the `continue` loop is a step on `[cb]`; unless the compiler rejects, `cb` gets one item -/
theorem contIter (c : Option Nat) (body cb : Nat) (s : CSt) (hcb : cb < s.next) :
    Step s [cb] (contStep c body cb s).1 (contStep c body cb s).2 ∧ (contStep c body cb s).2.Nodup ∧
      (∀ y ∈ (contStep c body cb s).2, s.next ≤ y ∧ (contStep c body cb s).1.heap y = {}) ∧
      ((contStep c body cb s).1.bad = false → s.root cb ≠ s.root body ∧
        ∃ it, (contStep c body cb s).1.heap cb = { s.heap cb with items := (s.heap cb).items ++ [it] } ∧
          ContItem c body (contStep c body cb s).2 [] it) := by
  have hl : Hlt s [cb] := ⟨fun o ho => List.mem_singleton.mp ho ▸ hcb, by omega⟩
  unfold contStep
  split
  · -- `Step` does not read the flag `bad`
    exact ⟨{ (Step.refl s [cb]).shrink (O' := []) (fun _ h => nomatch h) with }, List.nodup_nil,
      (fun _ h => nomatch h), fun h => Bool.noConfusion h⟩
  · rename_i h
    cases c with
    | none =>
      have hs := (HeapExt.append s [cb] cb (by simp) (.sub body)).step hl.1
      exact ⟨hs.shrink (fun _ h => nomatch h), List.nodup_nil, (fun _ h => nomatch h),
        fun _ => ⟨h, .sub body, CSt.append_heap_self _ _ _, rfl⟩⟩
    | some c' =>
      have h1 := Step.newBlock s [cb] hl.1 (some cb) (by simp)
      have h12 := h1.trans hl.1 ((HeapExt.append _ _ cb (by simp) (.ite c' body s.next)).step (h1.hlt hl).1)
      refine ⟨h12.shrink (fun o ho => by simp at ho; simp [ho]), by simp, ?_,
        fun _ => ⟨h, .ite c' body s.next, ?_, s.next, List.mem_singleton.mpr rfl, List.not_mem_nil, rfl⟩⟩
      · intro y hy
        rw [List.mem_singleton.mp hy]
        exact ⟨Nat.le_refl _, (CSt.append_heap_ne _ _ (Nat.ne_of_gt hcb)).trans (CSt.newBlock_heap_new _ _)⟩
      · rw [CSt.append_heap_self, CSt.newBlock_heap_old _ _ (Nat.ne_of_lt hcb)]

theorem contLoop_step (c : Option Nat) (body : Nat) :
    ∀ (cbs : List Nat) (s : CSt) (acc : List Nat), Hlt s cbs →
      Step s cbs (contLoop c body cbs s acc).2 [] ∧
      (∀ o ∈ (contLoop c body cbs s acc).1, o ∈ acc ∨ InR s cbs (contLoop c body cbs s acc).2 o) := by
  intro cbs
  induction cbs with
  | nil =>
    intro s acc _
    exact ⟨Step.refl s [], fun o ho => Or.inl ho⟩
  | cons cb cbs ih =>
    intro s acc hl
    rw [contLoop_cons]
    exact (Step.loop hl (contIter c body cb s (hl.1 cb (by simp))).1 (fun o ho => List.mem_append.mp ho) (ih _ _)).2

/-- `addfrontAll` only changes the heap -/
theorem CSt.addfrontAll_eq (t : Nat) : ∀ (bs : List Nat) (s : CSt),
    s.addfrontAll bs t = { s with heap := (s.addfrontAll bs t).heap } := by
  intro bs
  induction bs with
  | nil => intro s; rfl
  | cons b bs ih => intro s; exact (ih (s.addfront b t)).trans rfl

theorem CSt.addfrontAll_states (t : Nat) (bs : List Nat) (s : CSt) : (s.addfrontAll bs t).states = s.states := by
  rw [CSt.addfrontAll_eq]

theorem CSt.addfrontAll_next (t : Nat) (bs : List Nat) (s : CSt) : (s.addfrontAll bs t).next = s.next := by
  rw [CSt.addfrontAll_eq]

theorem CSt.addfrontAll_root (t : Nat) (bs : List Nat) (s : CSt) : (s.addfrontAll bs t).root = s.root := by
  rw [CSt.addfrontAll_eq]

theorem CSt.addfrontAll_bad (t : Nat) (bs : List Nat) (s : CSt) : (s.addfrontAll bs t).bad = s.bad := by
  rw [CSt.addfrontAll_eq]

theorem CSt.addfrontAll_sameLists (t : Nat) (bs : List Nat) (s : CSt) : SameLists s (s.addfrontAll bs t) := by
  rw [CSt.addfrontAll_eq]; exact ⟨rfl, rfl, rfl⟩

theorem enterState_start (O : List Nat) (s : CSt) (h : s.atStart = true) : enterState O s = (0, 0, s) := by
  simp [enterState, h]

theorem enterState_nostart (O : List Nat) (s : CSt) (h : s.atStart = false) :
    enterState O s = (s.states.length, s.next,
      CSt.addfrontAll { (s.newBlock none).2 with states := s.states ++ [s.next] } O s.states.length) := by
  simp [enterState, h, CSt.newBlock]

theorem enterState_sameLists (O : List Nat) (s : CSt) : SameLists s (enterState O s).2.2 := by
  cases hst : s.atStart with
  | true => rw [enterState_start O s hst]; exact SameLists.refl s
  | false => rw [enterState_nostart O s hst]; exact CSt.addfrontAll_sameLists _ _ _

theorem enterState_bad (O : List Nat) (s : CSt) : (enterState O s).2.2.bad = s.bad := by
  cases hst : s.atStart with
  | true => rw [enterState_start O s hst]
  | false => rw [enterState_nostart O s hst]; exact CSt.addfrontAll_bad _ _ _

theorem enterState_step (O : List Nat) (s : CSt) (hl : Hlt s O) (hs : s.atStart = true → 0 ∈ O) :
    Step s O (enterState O s).2.2 ((enterState O s).2.1 :: O) := by
  cases hst : s.atStart with
  | true =>
    rw [enterState_start O s hst]
    exact (Step.refl s O).widen (fun _ h => h) hl.1
      (fun o ho => Or.inl ((List.mem_cons.mp ho).elim (fun h => h ▸ hs hst) id))
  | false =>
    rw [enterState_nostart O s hst]
    have h1 := Step.newBlock s O hl.1 none (by simp)
    have hl1 := h1.hlt hl
    have h2 := Step.addState (s.newBlock none).2 (s.next :: O) s.next (by simp [CSt.newBlock])
    have h3 := (HeapExt.addfrontAll _ s.states.length O _ (fun b hb => by simp [hb])
      (fun _ => by simp [CSt.newBlock])).step (h2.hlt hl1).1
    exact (h1.trans hl.1 h2).trans hl.1 h3

/-- at the start exactly block 0 is open; afterwards: still open, or returned, or the coroutine stopped -/
def JPost (s : CSt) (c : Bool) (r : List Nat × CSt) : Prop :=
  r.2.atStart = true →
    (r.1 = [0] ∧ r.2.ret = s.ret) ∨ (r.1 = [] ∧ c = true ∧ r.2.ret = s.ret ++ [0]) ∨ (r.1 = [] ∧ c = false)

/-- structural specification of a translation function `f = compile t`, for `t` with `wf t l c`: `l` = inside a loop
    (`break` / `continue` allowed), `c` = inside an awaited sub-coroutine (`return` allowed, `await false` not).  Third hypothesis: inside
    a loop the first state is already used, since `While` marks it with a `Nop`. -/
def CSpec (f : List Nat → CSt → List Nat × CSt) (l c : Bool) : Prop :=
  ∀ O s, Hlt s O → (s.atStart = true → O = [0]) → (l = true → s.atStart = false) →
    Step s O (f O s).2 (f O s).1 ∧ JPost s c (f O s)

theorem CSpec.br {f : List Nat → CSt → List Nat × CSt} {l c : Bool} (h : CSpec f l c) : BrSpec f :=
  fun O s hl hs => (h O s hl (fun h' => by rw [hs] at h'; cases h') (fun _ => hs)).1

theorem JPost.of_false {s : CSt} {c : Bool} {r : List Nat × CSt} (h : r.2.atStart = false) : JPost s c r :=
  fun h' => by rw [h] at h'; cases h'

/-- a step that leaves the start, then the translation of what follows -/
theorem CSpec.after {f : List Nat → CSt → List Nat × CSt} {l c : Bool} (hk : CSpec f l c) {s s1 : CSt} {O O1 : List Nat}
    (hl : Hlt s O) (T : Step s O s1 O1) (hA : s1.atStart = false) :
    Step s O (f O1 s1).2 (f O1 s1).1 ∧ JPost s c (f O1 s1) :=
  have K := hk.br O1 s1 (T.hlt hl) hA
  ⟨T.trans hl.1 K, JPost.of_false (K.atStart_false (T.hlt hl).2 hA)⟩

theorem appendAll_items_ne (it : Item) (b : Nat) : ∀ (bs : List Nat) (s : CSt), b ∈ bs →
    ((s.appendAll bs it).heap b).items ≠ [] := by
  intro bs
  induction bs with
  | nil => intro s h; simp at h
  | cons x xs ih =>
    intro s h
    rcases List.mem_cons.mp h with h | h
    · subst h
      exact ((HeapExt.appendAll xs it xs (s.append b it) (fun _ h => h)).items_mono b).ne_nil (by rw [append_items]; simp)
    · exact ih _ h

end CohdlVerif.C01
