import CohdlVerif.Lemmas.C18Batch
/-!
  C18: the counting helpers.  `count`, `count_set_bits` and `count_clear_bits` all add up small numbers with
  `batched_fold` over widening adders and cut the result down to `bit_length(N)` bits; `widen_fold_exact`
  says once when that is exact.
-/
namespace CohdlVerif.C18

theorem toNat_cons_mod (b : Bool) (r : Bits) : toNat (b :: r) % 2 = if b then 1 else 0 := by
  rw [toNat, Nat.add_mul_mod_self_left]
  cases b <;> rfl

theorem toNat_cons_div (b : Bool) (r : Bits) : toNat (b :: r) / 2 = toNat r := by
  rw [toNat, Nat.add_mul_div_left _ _ Nat.two_pos]
  cases b <;> simp

theorem toNat_lt (b : Bits) : toNat b < 2 ^ b.length := by
  induction b with
  | nil => exact Nat.one_pos
  | cons x r ih =>
    rw [toNat, List.length_cons, Nat.pow_succ]
    split <;> omega

theorem bitCountF_zero (fuel : Nat) : bitCountF fuel 0 = 0 := by
  induction fuel with
  | zero => rfl
  | succ f ih => rw [bitCountF, ih]

theorem bitCountF_toNat (c : Bits) : ∀ fuel, c.length ≤ fuel → bitCountF fuel (toNat c) = c.count true := by
  induction c with
  | nil => intro fuel _; exact bitCountF_zero fuel
  | cons x r ih =>
    intro fuel hf
    cases fuel with
    | zero => simp at hf
    | succ f =>
      rw [bitCountF, toNat_cons_mod, toNat_cons_div, ih f (Nat.le_of_succ_le_succ hf), List.count_cons]
      cases x <;> simp <;> omega

theorem sum_map_le (g h : α → Nat) (l : List α) (hle : ∀ a ∈ l, g a ≤ h a) : (l.map g).sum ≤ (l.map h).sum := by
  induction l with
  | nil => exact Nat.le_refl 0
  | cons a r ih =>
    rw [List.map_cons, List.map_cons, List.sum_cons, List.sum_cons]
    exact Nat.add_le_add (hle a List.mem_cons_self) (ih fun x hx => hle x (List.mem_cons_of_mem a hx))

theorem sum_map_sub (g h : α → Nat) (l : List α) (hle : ∀ a ∈ l, g a ≤ h a) :
    (l.map fun a => h a - g a).sum = (l.map h).sum - (l.map g).sum := by
  induction l with
  | nil => rfl
  | cons a r ih =>
    have h1 := hle a List.mem_cons_self
    have h2 := sum_map_le g h r fun x hx => hle x (List.mem_cons_of_mem a hx)
    simp only [List.map_cons, List.sum_cons, ih fun x hx => hle x (List.mem_cons_of_mem a hx)]
    omega

theorem sum_map_ite [DecidableEq α] (l : List α) (v : α) : (l.map fun e => if e = v then 1 else 0).sum = l.count v := by
  induction l with
  | nil => rfl
  | cons a r ih =>
    rw [List.map_cons, List.sum_cons, ih, List.count_cons, Nat.add_comm]
    by_cases h : a = v <;> simp [h]

theorem sum_map_one (l : List α) : (l.map fun _ => 1).sum = l.length := by
  rw [List.map_const', List.sum_replicate_nat, Nat.mul_one]

def cap (a : U) : Nat := 2 ^ a.w - 1

theorem cap_safeAdd (a b : U) : cap a + cap b ≤ cap (safeAdd a b) := by
  have h1 : 2 ^ a.w ≤ 2 ^ max a.w b.w := Nat.pow_le_pow_right (by omega) (Nat.le_max_left _ _)
  have h2 : 2 ^ b.w ≤ 2 ^ max a.w b.w := Nat.pow_le_pow_right (by omega) (Nat.le_max_right _ _)
  have h3 := Nat.two_pow_pos a.w
  simp only [cap, safeAdd, Nat.pow_succ]
  omega

theorem safeAdd_v (a b : U) (ha : a.v ≤ cap a) (hb : b.v ≤ cap b) : (safeAdd a b).v = a.v + b.v := by
  have h := cap_safeAdd a b
  have h3 := Nat.two_pow_pos (max a.w b.w + 1)
  simp only [cap, safeAdd] at h ha hb ⊢
  exact Nat.mod_eq_of_lt (by omega)

/-- a bracketing of widening adds yields the exact sum, in a width that could hold the largest values of all
    operands together -/
theorem safeAdd_tree {l : List U} {r : U} (h : FoldTree safeAdd l r) :
    (∀ a ∈ l, a.v ≤ cap a) → r.v = (l.map U.v).sum ∧ (l.map cap).sum ≤ cap r ∧ r.v ≤ cap r := by
  induction h with
  | leaf a => intro hinv; simpa using hinv a List.mem_cons_self
  | @node l₁ l₂ r₁ r₂ _ _ ih₁ ih₂ =>
    intro hinv
    obtain ⟨e₁, c₁, b₁⟩ := ih₁ fun a ha => hinv a (List.mem_append_left _ ha)
    obtain ⟨e₂, c₂, b₂⟩ := ih₂ fun a ha => hinv a (List.mem_append_right _ ha)
    have hc := cap_safeAdd r₁ r₂
    rw [safeAdd_v r₁ r₂ b₁ b₂, List.map_append, List.map_append, List.sum_append, List.sum_append]
    omega

/-- a batched widening sum followed by the truncation to `bit_length(N)` bits is exact whenever the true sum
    is at most N and the operand widths can hold N in total -/
theorem widen_fold_exact (l : List α) (f : α → U) (hne : l ≠ []) (hinv : ∀ a ∈ l, (f a).v ≤ cap (f a)) (N : Nat)
    (hN : (l.map fun a => (f a).v).sum ≤ N) (hcap : N ≤ (l.map fun a => cap (f a)).sum) :
    (batchedFold safeAdd 2 (l.map f)).bind (truncTo (bitLen N)) = some ⟨bitLen N, (l.map fun a => (f a).v).sum⟩ := by
  obtain ⟨r, hr, ht⟩ := batchedFold_tree safeAdd 2 (l.map f) (by omega) (by simpa using hne)
  obtain ⟨e, c, _⟩ := safeAdd_tree ht (List.forall_mem_map.mpr hinv)
  rw [List.map_map] at e c
  replace e : r.v = (l.map fun a => (f a).v).sum := e
  have hw : bitLen N ≤ r.w := by
    apply bitLen_le_of_lt
    have := Nat.two_pow_pos r.w
    have : N ≤ 2 ^ r.w - 1 := Nat.le_trans hcap c
    omega
  have hv : r.v < 2 ^ bitLen N := Nat.lt_of_le_of_lt (e ▸ hN) (lt_two_pow_bitLen N)
  rw [hr, Option.bind_some, truncTo, ← e]
  split
  · rw [lsbU, if_neg (by omega), Nat.mod_eq_of_lt hv]
  · next heq =>
    cases r
    cases Decidable.not_not.mp heq
    rfl

theorem setCnt_eq (c : Bits) : setCnt c = ⟨uptoW c.length, c.count true⟩ := by
  rw [setCnt, if_pos (toNat_lt c), bitCountF_toNat c c.length (Nat.le_refl _)]

theorem clearCnt_eq (c : Bits) : clearCnt c = ⟨uptoW c.length, c.length - c.count true⟩ := by
  rw [clearCnt, if_pos (toNat_lt c), bitCountF_toNat c c.length (Nat.le_refl _)]

theorem le_cap_uptoW (n v : Nat) : n ≤ cap ⟨uptoW n, v⟩ := by
  simp only [cap, uptoW]
  split
  · subst_vars; omega
  · have := lt_two_pow_bitLen n; omega

theorem countBitsWith_eq (tbl : Bits → U) (val : Bits → Nat) (htbl : ∀ c, tbl c = ⟨uptoW c.length, val c⟩)
    (hv : ∀ c, val c ≤ c.length) (bs : Nat) (bits : Bits) (hbs : 1 ≤ bs) (hb : bits ≠ []) :
    countBitsWith tbl bs bits = some ⟨bitLen bits.length, ((batchArgs bs bits).map val).sum⟩ := by
  obtain rfl : tbl = fun c => ⟨uptoW c.length, val c⟩ := funext htbl
  have hlen : ((batchArgs bs bits).map List.length).sum = bits.length := by
    rw [← List.length_flatten, batchArgs_flatten hbs]
  unfold countBitsWith
  rw [batched_eq_chunks bits bs true hbs (Or.inl rfl), chunks_eq]
  exact widen_fold_exact (batchArgs bs bits) _ (batchArgs_ne_nil hbs hb)
    (fun c _ => Nat.le_trans (hv c) (le_cap_uptoW _ _)) bits.length
    (hlen ▸ sum_map_le _ _ _ fun c _ => hv c) (hlen ▸ sum_map_le _ _ _ fun c _ => le_cap_uptoW _ _)

theorem countM_eq [DecidableEq α] (l : List α) (v : α) : countM l v = some (countSpec l v) := by
  cases l with
  | nil => rfl
  | cons a r =>
    have key := widen_fold_exact (a :: r) (fun e => ⟨1, if e = v then 1 else 0⟩) (List.cons_ne_nil a r)
      (fun e _ => by simp only [cap]; split <;> omega) (a :: r).length
      (sum_map_ite (a :: r) v ▸ List.count_le_length) (Nat.le_of_eq (sum_map_one (a :: r)).symm)
    rw [sum_map_ite] at key
    simpa [countM, countSpec] using key

end CohdlVerif.C18
