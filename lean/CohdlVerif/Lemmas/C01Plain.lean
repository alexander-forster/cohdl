import CohdlVerif.Lemmas.C01Fwd
import CohdlVerif.Lemmas.C01If

/-! C01 - statements translated without any transition only append pure code to their block (`plainX`). -/
namespace CohdlVerif.C01

variable {σ : Type} (act : Nat → σ → σ) (cond : Nat → σ → Bool)
variable (prog : Stmt) (Hf : Nat → Blk) (E : Nat → σ → σ × Option Nat) (Rf : Nat → Nat) (Sf : List Nat)

theorem plainX_ite (hE : ∀ b s, E b s = execB act cond E (Hf b) s) (cc : Nat) (t e k : Stmt) (l c : Bool)
    (ht : wf t l c = true) (he : wf e l c = true) (hk : wf k l c = true)
    (iht : PlainX act cond Hf E Rf Sf t) (ihe : PlainX act cond Hf E Rf Sf e) (ihk : PlainX act cond Hf E Rf Sf k) :
    PlainX act cond Hf E Rf Sf (.ite cc t e k) := by
  intro x s P' hi hsi hA hF hP'
  refine of_pending rfl (fun hn => ?_)
  obtain ⟨X, hat, hae, heq, Tk, hi5, _⟩ := ite_pend cc t e k l c (compile_spec t l c ht) (compile_spec e l c he)
    (compile_spec k l c hk) x s hi hsi hn
  rw [heq] at hF hP' ⊢
  have n5 := X.n5
  have hn6 := Tk.next_le
  have piece := plain_ite_piece act cond Hf E Rf Sf hE cc t e k iht ihe x s (hi.hlt.1 x (by simp)) X _
    (Fut.back Tk (P := fun y => y = x ∨ P' y) (by simp) (fun y hy => Or.inl (Or.inr hy)) hF)
    (fun y hy hlt hr => hy.elim id (fun hy => hP' y hy (by omega) hr)) hat hae
  have s5 := ite_pend_sameLists (pendS t l c ht) (pendS e l c he) X hat hae
  obtain ⟨_, _, eR⟩ := dX_congr s5 (compile k [x] (iR5 t e cc x s).2).2
  rw [← eR]
  obtain ⟨k1, k2⟩ := ihk x (iR5 t e cc x s).2 P' hi5 X.hsi5 X.hA5 hF
    (fun y hy hlt hr => hP' y hy hlt (hr.imp id (fun h => by have := X.n4; omega)))
  exact ⟨fun h => piece.trans act cond E (k1 h), fun h => piece.trans act cond E (k2 h)⟩

theorem plainX_call (b k : Stmt) (l c : Bool) (hb : wf b false true = true) (hk : wf k l c = true)
    (ihb : PlainX act cond Hf E Rf Sf b) (ihk : PlainX act cond Hf E Rf Sf k) :
    PlainX act cond Hf E Rf Sf (.call b k) := by
  intro x s P' hi hsi hA hF hP'
  rw [compile_callG b k [x] s (by simp)] at hF hP' ⊢
  have C := cctx b (compile_spec b false true hb) (fwdW b false true hb) [x] s hi
  have hA2 : (cOut b [x] s).atStart = false := C.BW.atStart_false hi.hlt.2 hA
  have Tk0 := (compile_spec k l c hk).step C.hi2 (fun _ => hA2)
  refine of_pending (s1 := cOut b [x] s) rfl (fun hn => ?_)
  have hx : x < (cOut b [x] s).next := Nat.lt_of_lt_of_le (hi.hlt.1 x (List.mem_singleton.mpr rfl)) C.BW.next_le
  have hm : x ∈ cRes b [x] s := (Tk0.outs_r x hn).old hx
  have hres := (call_pend (pendS b false true hb) C hsi hA hm).1
  have hi2 := C.hi2
  rw [hres] at hi2 hF hP' Tk0 ⊢
  have F2 : Fut Hf Rf Sf (cOut b [x] s) (fun y => y = x ∨ P' y) :=
    Fut.back Tk0 (by simp) (fun y hy => Or.inl (Or.inr hy)) hF
  have hnk := Tk0.next_le
  obtain ⟨q1, q2⟩ := ihb x (cIn s) _ C.hiIn ⟨hsi.states_lt, hsi.root0, hsi.states0⟩ hA
    (⟨F2.items, F2.closed, F2.root, F2.states⟩ : Fut Hf Rf Sf (compile b [x] (cIn s)).2 _)
    (fun y hy hlt hr => hy.elim id (fun hy => hP' y hy (Nat.lt_of_lt_of_le hlt hnk) hr))
  -- the body as the first plain piece
  have piece : PlainResQ act cond E k (.call b k) x s (cOut b [x] s) := by
    rcases mem_cRes.mp hm with h | h
    · obtain ⟨hf, added, eff, h1, h2, h3⟩ := q1 h
      exact ⟨hf, added, eff, h1, h2, fun st σ0 => (RunTo.call_ act cond b k st _ σ0).trans act cond
        ((h3 (.callF k :: st) σ0).trans act cond (RunTo.skip_call act cond k st _ _))⟩
    · obtain ⟨hf, added, eff, h1, h2, h3⟩ := q2 h
      exact ⟨hf, added, eff, h1, h2, fun st σ0 => (RunTo.call_ act cond b k st _ σ0).trans act cond
        ((h3 (.callF k :: st) σ0).trans act cond (RunTo.ret_call act cond k st _ _))⟩
  obtain ⟨k1, k2⟩ := ihk x (cOut b [x] s) P' hi2 (hsi.step C.BW hi.hlt.2) hA2 hF
    (fun y hy hlt hr => hP' y hy hlt (hr.imp id (fun h => Nat.le_trans C.BW.next_le h)))
  exact ⟨fun h => piece.trans act cond E (k1 h), fun h => piece.trans act cond E (k2 h)⟩

/-- `PlainX` for every well-formed statement; `await` and `while` never leave their block pending -/
theorem plainX (hE : ∀ b s, E b s = execB act cond E (Hf b) s) :
    ∀ (t : Stmt) (l c : Bool), wf t l c = true → PlainX act cond Hf E Rf Sf t := by
  intro t
  induction t with
  | skip =>
    intro l c _ x s P' _ _ _ _ _
    simp only [compile]
    exact ⟨fun _ => ⟨rfl, [], id, by simp, fun _ => rfl, fun st σ0 => RunTo.refl act cond _ _ _ _⟩,
      fun h => by simp [dR] at h⟩
  | act a k ih =>
    intro l c h x s P' hi hsi hA hF hP'
    have hk : wf k l c = true := by simpa [wf] using h
    rw [compile_act_single] at hF hP' ⊢
    have hx := HeapExt.append s [x] x (by simp) (.act a)
    have hA1 := (hx.step hi.hlt.1).atStart_false hi.hlt.2 hA
    obtain ⟨i1, i2⟩ := ih l c hk x _ P' (hi.single_append _) (hsi.step (hx.step hi.hlt.1) hi.hlt.2) hA1 hF hP'
    exact ⟨fun h => (PlainResQ.of_act act cond E a k x s hA).trans act cond E (i1 h),
      fun h => (PlainResQ.of_act act cond E a k x s hA).trans act cond E (i2 h)⟩
  | await cc k _ =>
    intro l c h x s P' hi _ hA _ _
    exact of_not_pending (await_not_pending cc k l c (by simpa [wf] using h) x s hi hA)
  | awaitF => intro l c _ x s P' _ _ _ _ _; exact of_not_pending (awaitF_not_pending x s)
  | ite cc t e k iht ihe ihk =>
    intro l c h
    simp only [wf, Bool.and_eq_true] at h
    exact plainX_ite act cond Hf E Rf Sf hE cc t e k l c h.1.1 h.1.2 h.2 (iht l c h.1.1) (ihe l c h.1.2) (ihk l c h.2)
  | while_ cc b k _ _ =>
    intro l c h x s P' hi hsi hA _ _
    simp only [wf, Bool.and_eq_true] at h
    exact of_not_pending (while_not_pending cc b k l c h.1 h.2 x s hi hsi hA)
  | brk => intro l c _ x s P' _ _ _ _ _; simp [compile, dR]
  | cont => intro l c _ x s P' _ _ _ _ _; simp [compile, dR]
  | ret =>
    intro l c _ x s P' _ _ _ _ _
    simp only [compile]
    exact ⟨fun h => by simp at h,
      fun _ => ⟨rfl, [], id, by simp, fun _ => rfl, fun st σ0 => RunTo.refl act cond _ _ _ _⟩⟩
  | call b k ihb ihk =>
    intro l c h
    simp only [wf, Bool.and_eq_true] at h
    exact plainX_call act cond Hf E Rf Sf b k l c h.1 h.2 (ihb false true h.1) (ihk l c h.2)

end CohdlVerif.C01
