import CohdlVerif.Model.C02
import Mathlib.Algebra.Group.Nat.Defs
import Mathlib.Algebra.Group.Int.Defs

/-!
  C02 - helper lemmas: modular / two's complement arithmetic behind numeric_std, and the agreement of
  the package's sign-magnitude division algorithms with truncating division, `rem` and `mod`.
  The two Mathlib modules supply the `Monoid.Pow` instances through which the statements of the property
  theorems read `2 ^ w`; the proofs use core lemmas and `omega` only.
-/
namespace CohdlVerif.C02

theorem emod_eq_of {a N r q : Int} (hN : 0 < N) (h : r + N * q = a) (h0 : 0 ≤ r) (h1 : r < N) : a % N = r :=
  ((Int.ediv_emod_unique hN).2 ⟨h, h0, h1⟩).2

theorem ediv_eq_of {a N r q : Int} (hN : 0 < N) (h : r + N * q = a) (h0 : 0 ≤ r) (h1 : r < N) : a / N = q :=
  ((Int.ediv_emod_unique hN).2 ⟨h, h0, h1⟩).1

theorem p2pos (w : Nat) : (0 : Int) < 2 ^ w := Int.pow_pos (by decide)

theorem p2halfN {w : Nat} (h : 1 ≤ w) : (2 : Nat) ^ w = 2 * 2 ^ (w - 1) := by
  obtain ⟨k, rfl⟩ : ∃ k, w = k + 1 := ⟨w - 1, by omega⟩
  rw [Nat.add_sub_cancel, Nat.pow_succ, Nat.mul_comm]

theorem p2half {w : Nat} (h : 1 ≤ w) : (2 : Int) ^ w = 2 * 2 ^ (w - 1) := by
  exact_mod_cast p2halfN h

theorem p2monoN {a b : Nat} (h : a ≤ b) : (2 : Nat) ^ a ≤ 2 ^ b :=
  Nat.pow_le_pow_right (by decide) h

theorem p2mono {a b : Nat} (h : a ≤ b) : (2 : Int) ^ a ≤ 2 ^ b := by
  exact_mod_cast p2monoN h

theorem enc_cast (w : Nat) (x : Int) : ((enc w x : Nat) : Int) = x % 2 ^ w := by
  unfold enc
  exact Int.toNat_of_nonneg (Int.emod_nonneg _ (Int.ne_of_gt (p2pos w)))

theorem enc_lt (w : Nat) (x : Int) : enc w x < 2 ^ w := by
  have h := Int.emod_lt_of_pos x (p2pos w)
  rw [← enc_cast] at h
  exact_mod_cast h

theorem enc_congr {w : Nat} {x y : Int} (h : x % 2 ^ w = y % 2 ^ w) : enc w x = enc w y := by
  unfold enc; rw [h]

theorem enc_add_pow (w : Nat) (x : Int) : enc w (x + 2 ^ w) = enc w x :=
  enc_congr (Int.add_emod_right x _)

theorem enc_wrapU (w : Nat) (x : Int) : enc w (wrapU w x) = enc w x := by
  apply enc_congr; unfold wrapU
  exact Int.emod_emod_of_dvd _ (Int.dvd_refl _)

theorem enc_wrapS (w : Nat) (x : Int) : enc w (wrapS w x) = enc w x := by
  apply enc_congr; unfold wrapS
  rw [Int.emod_sub_emod]; congr 1; omega

theorem enc_of_range {w : Nat} {x : Int} (h0 : 0 ≤ x) (h1 : x < 2 ^ w) : ((enc w x : Nat) : Int) = x := by
  rw [enc_cast]; exact Int.emod_eq_of_lt h0 h1

theorem enc_natCast {w p : Nat} (h : p < 2 ^ w) : enc w (p : Int) = p := by
  have : ((enc w (p : Int) : Nat) : Int) = (p : Int) :=
    enc_of_range (Int.natCast_nonneg p) (by exact_mod_cast h)
  exact_mod_cast this

theorem wrapU_range (w : Nat) (x : Int) : 0 ≤ wrapU w x ∧ wrapU w x < 2 ^ w :=
  ⟨Int.emod_nonneg _ (Int.ne_of_gt (p2pos w)), Int.emod_lt_of_pos _ (p2pos w)⟩

theorem wrapS_range {w : Nat} (h : 1 ≤ w) (x : Int) : -(2 ^ (w - 1)) ≤ wrapS w x ∧ wrapS w x < 2 ^ (w - 1) := by
  unfold wrapS
  have h0 := Int.emod_nonneg (x + 2 ^ (w - 1)) (Int.ne_of_gt (p2pos w))
  have h1 := Int.emod_lt_of_pos (x + 2 ^ (w - 1)) (p2pos w)
  have := p2half h
  constructor <;> omega

theorem wrapU_id {w : Nat} {x : Int} (h0 : 0 ≤ x) (h1 : x < 2 ^ w) : wrapU w x = x :=
  Int.emod_eq_of_lt h0 h1

theorem wrapS_id {w : Nat} {x : Int} (h : 1 ≤ w) (h0 : -(2 ^ (w - 1)) ≤ x) (h1 : x < 2 ^ (w - 1)) : wrapS w x = x := by
  unfold wrapS
  have := p2half h
  rw [Int.emod_eq_of_lt (by omega) (by omega)]; omega

theorem sInt_enc {w : Nat} (h : 1 ≤ w) (x : Int) : sInt w (enc w x) = wrapS w x := by
  have hc := enc_cast w x
  have hN := p2pos w
  have hh := p2half h
  have r0 := Int.emod_nonneg x (Int.ne_of_gt hN)
  have r1 := Int.emod_lt_of_pos x hN
  unfold sInt wrapS
  rw [← Int.emod_add_emod, ← hc] at *
  split
  · rename_i hlt
    have : ((enc w x : Nat) : Int) < 2 ^ (w - 1) := by exact_mod_cast hlt
    rw [Int.emod_eq_of_lt (by omega) (by omega)]
    omega
  · rename_i hge
    have : ¬ ((enc w x : Nat) : Int) < 2 ^ (w - 1) := fun h2 => hge (by exact_mod_cast h2)
    rw [emod_eq_of hN (q := 1) (r := (enc w x : Int) + 2 ^ (w - 1) - 2 ^ w) (by omega) (by omega) (by omega)]
    omega

theorem sInt_enc_id {w : Nat} {x : Int} (h : 1 ≤ w) (h0 : -(2 ^ (w - 1)) ≤ x) (h1 : x < 2 ^ (w - 1)) :
    sInt w (enc w x) = x := by
  rw [sInt_enc h, wrapS_id h h0 h1]

theorem enc_sInt {w p : Nat} (hp : p < 2 ^ w) : enc w (sInt w p) = p := by
  unfold sInt
  split
  · exact enc_natCast hp
  · rw [← enc_add_pow, Int.sub_add_cancel]
    exact enc_natCast hp

theorem sInt_range {w p : Nat} (h : 1 ≤ w) (hp : p < 2 ^ w) : -(2 ^ (w - 1)) ≤ sInt w p ∧ sInt w p < 2 ^ (w - 1) := by
  have hr := wrapS_range h (sInt w p)
  rwa [← sInt_enc h, enc_sInt hp] at hr

theorem sInt_vresize {w w' p : Nat} (h : 1 ≤ w) (hw : w ≤ w') :
    sInt w' (vresize .sgn w p w') = sInt w p := by
  unfold vresize sInt
  simp only [hw, if_true]
  have hh := p2halfN h
  have hh' := p2halfN (Nat.le_trans h hw)
  have hm : (2 : Nat) ^ (w - 1) ≤ 2 ^ (w' - 1) := p2monoN (by omega)
  have hm2 : (2 : Nat) ^ w ≤ 2 ^ w' := p2monoN hw
  by_cases hlt : p < 2 ^ (w - 1)
  · have : p < 2 ^ (w' - 1) := by omega
    simp [hlt, this]
  · have : ¬ (p + (2 ^ w' - 2 ^ w) < 2 ^ (w' - 1)) := by omega
    simp only [hlt, if_false, this]
    rw [Int.natCast_add, Int.natCast_sub hm2]
    push_cast
    omega

theorem vresize_sgn_lt {w w' p : Nat} (hw : w ≤ w') (hp : p < 2 ^ w) : vresize .sgn w p w' < 2 ^ w' := by
  unfold vresize
  simp only [hw, if_true]
  have hm2 : (2 : Nat) ^ w ≤ 2 ^ w' := p2monoN hw
  split <;> omega

theorem vresize_uns {w w' p : Nat} (hw : w ≤ w') (hp : p < 2 ^ w) : vresize .uns w p w' = p := by
  unfold vresize
  exact Nat.mod_eq_of_lt (Nat.lt_of_lt_of_le hp (p2monoN hw))

theorem nsDiv_eq (x y : Int) : nsDiv x y = Int.tdiv x y := by
  unfold nsDiv
  rcases x with x | x <;> rcases y with y | y <;>
    simp [Int.tdiv, Int.natAbs, Int.negSucc_lt_zero] <;> omega

theorem nsRem_eq (x y : Int) : nsRem x y = Int.tmod x y := by
  unfold nsRem
  rcases x with x | x <;> rcases y with y | y <;>
    simp [Int.tmod, Int.natAbs, Int.negSucc_lt_zero] <;> omega

theorem nsMod_eq (x y : Int) : nsMod x y = Int.fmod x y := by
  rw [Int.fmod_eq_tmod, ← nsRem_eq]
  have hd : (y ∣ x) ↔ (x.natAbs % y.natAbs = 0) := by
    rw [← Int.natAbs_dvd_natAbs, Nat.dvd_iff_mod_eq_zero]
  unfold nsMod nsRem
  simp only [hd]
  generalize x.natAbs % y.natAbs = r
  by_cases hx : x < 0 <;> by_cases hy : y < 0 <;> by_cases h0 : r = 0 <;>
    simp [hx, hy, h0, Int.not_lt.mp] <;> omega

theorem nsOp_ofA (op : AOp) (x y : Int) : nsOp (.ofA op) x y = aop op x y := by
  cases op
  case div => exact nsDiv_eq x y
  case rem => exact nsRem_eq x y
  case mod => exact nsMod_eq x y
  all_goals rfl

theorem vvW_ofA (op : AOp) (wa wb : Nat) : vvW (.ofA op) wa wb = arithVV op wa wb := by
  cases op <;> rfl

theorem dec_zero (k : VK) (w : Nat) : dec k w 0 = 0 := by
  cases k <;> simp [dec, sInt]

theorem dec_vresize (k : VK) {w W p : Nat} (hw : 1 ≤ w) (hW : w ≤ W) (hp : p < 2 ^ w) :
    dec k W (vresize k w p W) = dec k w p := by
  cases k
  case sgn => exact sInt_vresize hw hW
  all_goals exact congrArg Nat.cast (vresize_uns hW hp)

theorem enc_of_neg {w : Nat} {z : Int} (h0 : -(2 ^ w) ≤ z) (h1 : z < 0) : ((enc w z : Nat) : Int) = z + 2 ^ w := by
  rw [← enc_add_pow]
  exact enc_of_range (by omega) (by omega)

/-- `-x - 1` is congruent to `-1 - enc w x`, which is negative: its pattern is that number plus `2 ^ w` -/
theorem enc_not_sgn (w : Nat) (x : Int) : 2 ^ w - 1 - enc w x = enc w (-x - 1) := by
  have l : ((enc w x : Nat) : Int) < 2 ^ w := by exact_mod_cast enc_lt w x
  have hz := enc_of_neg (w := w) (z := -1 - (enc w x : Int)) (by omega) (by omega)
  rw [enc_congr (y := -x - 1) (by rw [enc_cast, Int.sub_emod_emod]; congr 1; omega)] at hz
  have e : (((2 : Nat) ^ w : Nat) : Int) = 2 ^ w := by norm_cast
  omega

theorem enc_not_uns (w : Nat) (x : Int) : 2 ^ w - 1 - enc w x = enc w (2 ^ w - 1 - x) := by
  rw [enc_not_sgn, ← enc_add_pow]
  congr 1
  omega

theorem enc_shr_nonneg {w n : Nat} {x : Int} (h0 : 0 ≤ x) (h1 : x < 2 ^ w) :
    enc w x / 2 ^ n = enc w (x / 2 ^ n) := by
  have hp : (0 : Int) < 2 ^ n := p2pos n
  have q0 : 0 ≤ x / 2 ^ n := Int.ediv_nonneg h0 (Int.le_of_lt hp)
  have q1 : x / 2 ^ n < 2 ^ w := Int.lt_of_le_of_lt (Int.ediv_le_self _ h0) h1
  have e1 := enc_of_range h0 h1
  have e2 := enc_of_range q0 q1
  have : ((enc w x / 2 ^ n : Nat) : Int) = ((enc w (x / 2 ^ n) : Nat) : Int) := by
    rw [e2, Int.natCast_ediv, e1]; norm_cast
  exact_mod_cast this

/-- SHIFT_RIGHT on a negative SIGNED value: the pattern with sign bits shifted in is the pattern of the floor
    division of the two's complement value -/
theorem shr_sgn_neg {w s p : Nat} (hw : 1 ≤ w) (hp : p < 2 ^ w) :
    p / 2 ^ s + (2 ^ w - 2 ^ (w - min s w)) = enc w (((p : Int) - 2 ^ w) / 2 ^ s) := by
  have hS := p2pos s
  have hpI : (p : Int) < 2 ^ w := by exact_mod_cast hp
  -- the quotient is `p / 2 ^ s - D` with `D = 2 ^ (w - min s w)`: for `s ≤ w` since `2 ^ w = D * 2 ^ s`, beyond that it is -1
  have hp0 : (0 : Int) ≤ p := Int.natCast_nonneg p
  have key : ((p : Int) - 2 ^ w) / 2 ^ s = (p : Int) / 2 ^ s - 2 ^ (w - min s w) ∧
      (p : Int) / 2 ^ s < 2 ^ (w - min s w) := by
    by_cases hs : s ≤ w
    · have hsplit : (2 : Nat) ^ w = 2 ^ (w - s) * 2 ^ s := by rw [← Nat.pow_add]; congr 1; omega
      have hsplitI : (2 : Int) ^ w = 2 ^ (w - s) * 2 ^ s := by exact_mod_cast hsplit
      have hdl : p / 2 ^ s < 2 ^ (w - s) := (Nat.div_lt_iff_lt_mul (Nat.two_pow_pos s)).2 (hsplit ▸ hp)
      rw [Nat.min_eq_left hs]
      refine ⟨?_, by exact_mod_cast hdl⟩
      rw [hsplitI, Int.sub_eq_add_neg, ← Int.neg_mul, Int.add_mul_ediv_right _ _ (Int.ne_of_gt hS)]
      omega
    · have hNS : (2 : Int) ^ w ≤ 2 ^ s := p2mono (by omega)
      rw [Nat.min_eq_right (by omega), Nat.sub_self, Int.ediv_eq_zero_of_lt hp0 (by omega)]
      exact ⟨ediv_eq_of hS (r := (p : Int) - 2 ^ w + 2 ^ s) (by omega) (by omega) (by omega), by decide⟩
  obtain ⟨hq, hdl⟩ := key
  have hle : (2 : Nat) ^ (w - min s w) ≤ 2 ^ w := p2monoN (by omega)
  have hleI : (2 : Int) ^ (w - min s w) ≤ 2 ^ w := p2mono (by omega)
  have hd0 : 0 ≤ (p : Int) / 2 ^ s := Int.ediv_nonneg hp0 (Int.le_of_lt hS)
  generalize ((p : Int) - 2 ^ w) / 2 ^ s = z at hq ⊢
  have hz := enc_of_neg (w := w) (z := z) (by omega) (by omega)
  have : ((p / 2 ^ s + (2 ^ w - 2 ^ (w - min s w)) : Nat) : Int) = ((enc w z : Nat) : Int) := by
    rw [hz, hq]
    push_cast [Int.natCast_sub hle]
    omega
  exact_mod_cast this

/-- SHIFT_RIGHT on SIGNED, every pattern: the floor division of the two's complement value -/
theorem vshiftR_sgn {w p : Nat} (s : Nat) (hw : 1 ≤ w) (hp : p < 2 ^ w) :
    vshiftR (.vec .sgn w p) (.int s) = .vec .sgn w (enc w (sInt w p / 2 ^ s)) := by
  have hs : ¬ (s : Int) < 0 := Int.not_lt.mpr (Int.natCast_nonneg s)
  simp only [vshiftR, hs, if_false, Int.toNat_natCast]
  unfold sInt
  split
  · have h := enc_shr_nonneg (w := w) (n := s) (Int.natCast_nonneg p) (by exact_mod_cast hp)
    rw [enc_natCast hp] at h
    rw [h]
  · rw [shr_sgn_neg hw hp]

theorem bit_test_cast (p i : Nat) : ((p / 2 ^ i) % 2 == 1) = (((p : Int) / 2 ^ i) % 2 == 1) := by
  have : (((p / 2 ^ i) % 2 : Nat) : Int) = ((p : Int) / 2 ^ i) % 2 := by push_cast; rfl
  rw [← this]
  cases h : (p / 2 ^ i) % 2 == 1 <;> simp_all

theorem lopN_lt (op : LOp) {w p q : Nat} (hp : p < 2 ^ w) (hq : q < 2 ^ w) : lopN op p q < 2 ^ w := by
  cases op
  · exact Nat.and_lt_two_pow _ hq
  · exact Nat.or_lt_two_pow hp hq
  · exact Nat.xor_lt_two_pow hp hq

/-- a specification value lies in the value range of its type (widths are at least 1) -/
def InRange : Ty → Val → Prop
  | .bit, .b _ => True
  | .bool, .b _ => True
  | .bv w, .n x => 1 ≤ w ∧ 0 ≤ x ∧ x < 2 ^ w
  | .uns w, .n x => 1 ≤ w ∧ 0 ≤ x ∧ x < 2 ^ w
  | .sgn w, .n x => 1 ≤ w ∧ -(2 ^ (w - 1)) ≤ x ∧ x < 2 ^ (w - 1)
  | .int, .n _ => True
  | _, _ => False

/-- a `w`-bit pattern read as a number is a value of `BitVector[w]` (and of `Unsigned[w]`: the same proposition).
    (`simp only [InRange]` is not needed for the proof; it derives the equations of `InRange` here, once, for every
    later `simp [InRange]`.) -/
theorem inRange_natCast {w p : Nat} (hw : 1 ≤ w) (hp : p < 2 ^ w) : InRange (.bv w) (.n (p : Int)) := by
  simp only [InRange]
  exact ⟨hw, Int.natCast_nonneg p, by exact_mod_cast hp⟩

theorem arithVV_pos (op : AOp) {wa wb : Nat} (ha : 1 ≤ wa) (hb : 1 ≤ wb) : 1 ≤ arithVV op wa wb := by
  cases op <;> simp [arithVV] <;> omega

theorem arithVI_pos (op : AOp) {w : Nat} (h : 1 ≤ w) : 1 ≤ arithVI op w := by
  cases op <;> simp [arithVI] <;> omega

theorem inRange_wrapU {w : Nat} (h : 1 ≤ w) (z : Int) : InRange (.uns w) (.n (wrapU w z)) :=
  ⟨h, (wrapU_range w z).1, (wrapU_range w z).2⟩

theorem inRange_wrapS {w : Nat} (h : 1 ≤ w) (z : Int) : InRange (.sgn w) (.n (wrapS w z)) :=
  ⟨h, (wrapS_range h z).1, (wrapS_range h z).2⟩

theorem ite_ok_iff {c : Prop} [Decidable c] {x : Except Err Ty} {e : Err} {t : Ty} :
    (if c then x else .error e) = .ok t ↔ c ∧ x = .ok t := by
  by_cases h : c <;> simp [h]

theorem intVal_some {a : Expr} {k : Int} (h : intVal a = some k) : a = .intc k := by
  cases a <;> simp [intVal] at h
  subst h; rfl

/-! ### vector types uniformly: `bv`, `uns`, `sgn` differ in `vkOf`, `wrap` and the reading `dec` of the pattern -/

theorem inj_vec {t : Ty} (hv : t.isVec = true) (x : Int) : inj t (.n x) = .vec (vkOf t) t.width (enc t.width x) := by
  cases t <;> first | rfl | cases hv

theorem enc_pat {t : Ty} (hv : t.isVec = true) (x : Int) : ((enc t.width x : Nat) : Int) = pat t x := by
  cases t <;> first | exact enc_cast _ x | cases hv

theorem inR_vec {t : Ty} {v : Val} (hv : t.isVec = true) (h : InRange t v) : v = .n v.num ∧ 1 ≤ t.width := by
  cases v with
  | n x => cases t <;> first | exact ⟨rfl, h.1⟩ | cases hv
  | b x => cases t <;> first | exact False.elim h | cases hv

theorem dec_enc {t : Ty} {x : Int} (hv : t.isVec = true) (h : InRange t (.n x)) :
    dec (vkOf t) t.width (enc t.width x) = x := by
  cases t
  case sgn => exact sInt_enc_id h.1 h.2.1 h.2.2
  case bit | bool | int => cases hv
  all_goals exact enc_of_range h.2.1 h.2.2

theorem enc_wrap {t : Ty} (hv : t.isVec = true) (z : Int) : enc t.width (wrap t z) = enc t.width z := by
  cases t
  case sgn => exact enc_wrapS _ z
  case bit | bool | int => cases hv
  all_goals exact enc_wrapU _ z

theorem inRange_wrap {t : Ty} (hv : t.isVec = true) (hw : 1 ≤ t.width) (z : Int) : InRange t (.n (wrap t z)) := by
  cases t
  case sgn => exact inRange_wrapS hw z
  case bit | bool | int => cases hv
  all_goals exact inRange_wrapU hw z

theorem vresize_enc {t : Ty} {w' : Nat} {x : Int} (hn : t.isNum = true) (hw : t.width ≤ w') (h : InRange t (.n x)) :
    vresize (vkOf t) t.width (enc t.width x) w' = enc w' x := by
  cases t
  case uns w =>
    obtain ⟨-, h0, h1⟩ := h
    have hw : w ≤ w' := hw
    show vresize .uns w (enc w x) w' = enc w' x
    have e := (enc_of_range h0 h1).trans (enc_of_range h0 (Int.lt_of_lt_of_le h1 (p2mono hw))).symm
    rw [vresize_uns hw (enc_lt w x)]
    exact_mod_cast e
  case sgn w =>
    obtain ⟨hw1, h0, h1⟩ := h
    have hw : w ≤ w' := hw
    show vresize .sgn w (enc w x) w' = enc w' x
    have e := enc_sInt (vresize_sgn_lt hw (enc_lt w x))
    rw [sInt_vresize hw1 hw, sInt_enc_id hw1 h0 h1] at e
    exact e.symm
  all_goals cases hn

theorem fits_inRange {t : Ty} {k : Int} (hv : t.isVec = true) (hw : 1 ≤ t.width) (hf : fits t k = true) :
    InRange t (.n k) := by
  cases t <;> first
    | (simp only [fits, Bool.and_eq_true, decide_eq_true_eq] at hf; exact ⟨hw, hf⟩)
    | cases hv

end CohdlVerif.C02
