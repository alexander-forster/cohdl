import CohdlVerif.Lemmas.C12Lemmas

/-!
  C12 - the substitution lemma: elaborating the emitted library by renaming gives, item by item, the design
  with the sub-entities' logic placed inline and the actuals substituted for the formals.
-/
namespace CohdlVerif.C12

/-! ## bindings are used only through `lookup` -/

def BEqv (b1 b2 : Binding) : Prop := ∀ n, b1.lookup n = b2.lookup n

theorem bindRef_ext {b1 b2 : Binding} (h : BEqv b1 b2) (r : Ref) : bindRef b1 r = bindRef b2 r := by
  simp only [bindRef, h r.name]

theorem substExpr_ext {b1 b2 : Binding} (h : BEqv b1 b2) : ∀ e : Expr, substExpr b1 e = substExpr b2 e
  | .ref r => congrArg Expr.ref (bindRef_ext h r)
  | .const _ _ => rfl
  | .not w a => congrArg (Expr.not w) (substExpr_ext h a)
  | .bin op w x y => by
      show Expr.bin op w _ _ = Expr.bin op w _ _
      rw [substExpr_ext h x, substExpr_ext h y]

theorem substLeaf_ext {b1 b2 : Binding} (h : BEqv b1 b2) (l : Leaf) : substLeaf b1 l = substLeaf b2 l := by
  cases l <;> simp only [substLeaf, bindRef_ext h, substExpr_ext h]

theorem BEqv_append {b1 b2 : Binding} (h : BEqv b1 b2) (c : Binding) : BEqv (b1 ++ c) (b2 ++ c) := by
  intro n; simp only [List.lookup_append, h n]

theorem lookup_map_snd {α β : Type} (g : α → β) : ∀ (l : List (String × α)) (n : String),
    (l.map (fun fa => (fa.1, g fa.2))).lookup n = (l.lookup n).map g
  | [], n => rfl
  | (k, v) :: rest, n => by
      simp only [List.map_cons, List.lookup_cons]
      cases h : n == k
      · exact lookup_map_snd g rest n
      · rfl

theorem pmapOf_cons (p : Port) (ps : List Port) (acts : List (String × Actual)) :
    pmapOf (p :: ps) acts = match acts.lookup p.name with
      | some a => (p.name, a.ref) :: pmapOf ps acts
      | none => pmapOf ps acts := by
  rw [pmapOf, List.filterMap_cons]
  cases acts.lookup p.name <;> rfl

/-- `EntityInst._port_map` looks the actual of every declared port up by name: the association list it prints
    maps a declared port to exactly the object given for it, and nothing else -/
theorem lookup_pmapOf (ports : List Port) (acts : List (String × Actual)) (n : String) :
    (pmapOf ports acts).lookup n =
      if ports.any (fun p => p.name == n) then (acts.lookup n).map (·.ref) else none := by
  induction ports with
  | nil => rfl
  | cons p ps ih =>
    rw [pmapOf_cons, List.any_cons]
    cases hpn : p.name == n
    · rw [Bool.false_or, ← ih]
      cases acts.lookup p.name with
      | none => rfl
      | some a => exact List.lookup_cons.trans (by rw [BEq.comm.trans hpn])
    · obtain rfl := beq_iff_eq.mp hpn
      rw [Bool.true_or, if_pos rfl]
      cases ha : acts.lookup p.name with
      | none => rw [ih, ha]; exact ite_self _
      | some a => exact List.lookup_cons_self

theorem pmap_binding_eqv (ports : List Port) (acts : List (String × Actual)) (b : Binding)
    (h : ∀ fa ∈ acts, fa.1 ∈ ports.map (·.name)) :
    BEqv ((pmapOf ports acts).map (fun fa => (fa.1, bindRef b fa.2)))
         (acts.map (fun fa => (fa.1, bindRef b fa.2.ref))) := by
  intro n
  rw [lookup_map_snd (bindRef b), lookup_map_snd (fun a : Actual => bindRef b a.ref), lookup_pmapOf]
  split
  · exact Option.map_map ..
  · rename_i hany
    have : acts.lookup n = none := List.lookup_eq_none_iff.mpr fun fa hfa => bne_iff_ne.mpr fun hn => by
      obtain ⟨p, hp, hpn⟩ := List.mem_map.mp (h fa hfa)
      exact hany (List.any_eq_true.mpr ⟨p, hp, beq_iff_eq.mpr (hpn.trans hn.symm)⟩)
    rw [this]
    rfl

theorem flattenT_mk (pfx σ n p l lg is) : flattenT pfx σ (.mk n p l lg is) =
    l.map (fun x => Net.sig (globalLocal pfx (dropDefault (drivenPlain is) x)))
      ++ lg.map (fun x => Net.proc (substLeaf (σ ++ localBinding pfx l) x))
      ++ flattenIs pfx (σ ++ localBinding pfx l) 0 is := rfl

theorem flattenIs_cons (pfx b k t acts rest) : flattenIs pfx b k (.cons t acts rest) =
    flattenT (instPrefix pfx k) (acts.map (fun fa => (fa.1, bindRef b fa.2.ref))) t
      ++ flattenIs pfx b (k + 1) rest := rfl

mutual
theorem flattenT_ext : ∀ (t : Tmpl) (pfx : String) (b1 b2 : Binding), BEqv b1 b2 → flattenT pfx b1 t = flattenT pfx b2 t
  | .mk n p l lg is, pfx, b1, b2, h => by
      have hb := BEqv_append h (localBinding pfx l)
      rw [flattenT_mk, flattenT_mk, flattenIs_ext is pfx _ _ 0 hb]
      congr 2
      exact List.map_congr_left fun x _ => congrArg Net.proc (substLeaf_ext hb x)
theorem flattenIs_ext : ∀ (is : Insts) (pfx : String) (b1 b2 : Binding) (k : Nat), BEqv b1 b2 →
    flattenIs pfx b1 k is = flattenIs pfx b2 k is
  | .nil, pfx, b1, b2, k, h => rfl
  | .cons t acts rest, pfx, b1, b2, k, h => by
      rw [flattenIs_cons, flattenIs_cons, flattenIs_ext rest pfx b1 b2 (k + 1) h]
      congr 1
      refine flattenT_ext t _ _ _ fun n => ?_
      rw [lookup_map_snd (fun a : Actual => bindRef b1 a.ref), lookup_map_snd (fun a : Actual => bindRef b2 a.ref)]
      exact congrArg (Option.map · _) (funext fun a => bindRef_ext h a.ref)
end

/-- `f` elaborates the template `s` correctly: after resolving the aliases it is `s` placed inline -/
def Correct (f : ElabFn) (s : Tmpl) : Prop :=
  ∀ pfx pb, (f pfx pb).map substItem = flattenT pfx pb s

theorem localBinding_dropDefault (pfx : String) (dr : List String) (locals : List Local) :
    localBinding pfx (locals.map (dropDefault dr)) = localBinding pfx locals := by
  simp only [localBinding, List.map_map]
  apply List.map_congr_left
  intro l _
  simp only [Function.comp, dropDefault]
  split <;> rfl

theorem elabInsts_correct (tbl : String → Option ElabFn) (pfx : String) (b : Binding) :
    ∀ (is : Insts) (k : Nat), WfIs is →
      (∀ ca ∈ instList is, ∃ f, tbl ca.1.name = some f ∧ Correct f ca.1) →
      ((emitInsts k is).flatMap (elabInst tbl pfx b)).map substItem = flattenIs pfx b k is
  | .nil, k, _, _ => rfl
  | .cons t acts rest, k, hw, htbl => by
      obtain ⟨hacts, _, hrest⟩ := wfIs_cons.mp hw
      obtain ⟨f, hf, hc⟩ := htbl (t, acts) List.mem_cons_self
      rw [emitInsts_cons, List.flatMap_cons, List.map_append, flattenIs_cons,
        elabInsts_correct tbl pfx b rest (k + 1) hrest fun ca hca => htbl ca (List.mem_cons_of_mem _ hca)]
      congr 1
      simp only [elabInst, hf]
      rw [hc]
      exact flattenT_ext t _ _ _ (pmap_binding_eqv t.ports acts b hacts)

theorem elabEntity_correct (tbl : String → Option ElabFn) (t : Tmpl) (hw : WfT t)
    (htbl : ∀ ca ∈ instList t.insts, ∃ f, tbl ca.1.name = some f ∧ Correct f ca.1) :
    Correct (elabEntity tbl (emitEntity t)) t := by
  cases t with
  | mk n p l lg is =>
    intro pfx pb
    rw [flattenT_mk, ← elabInsts_correct tbl pfx (pb ++ localBinding pfx l) is 0 hw htbl]
    simp only [elabEntity, emitEntity, List.map_append, List.map_map, localBinding_dropDefault]
    rfl

theorem elabTbl_cons (e : Entity) (older : List Entity) (n : String) : elabTbl (e :: older) n =
    match elabTbl older n with
    | some f => some f
    | none => if n = e.name then some (elabEntity (elabTbl older) e) else none := rfl

theorem elabTbl_isSome : ∀ (r : List Entity) (n : String), (elabTbl r n).isSome = hasName r n
  | [], n => rfl
  | e :: older, n => by
      rw [elabTbl_cons, hasName_cons, ← elabTbl_isSome older n]
      cases elabTbl older n with
      | some f => exact (Bool.or_true _).symm
      | none =>
        show (if n = e.name then _ else none).isSome = (e.name == n || false)
        by_cases hn : n = e.name
        · rw [if_pos hn, hn, beq_self_eq_true]
          rfl
        · rw [if_neg hn, beq_eq_false_iff_ne.mpr (Ne.symm hn)]
          rfl

theorem elabTbl_keep (e : Entity) (older : List Entity) (n : String) (f : ElabFn)
    (h : elabTbl older n = some f) : elabTbl (e :: older) n = some f := by
  rw [elabTbl_cons, h]

theorem elabTbl_new (e : Entity) (older : List Entity) (h : hasName older e.name = false) :
    elabTbl (e :: older) e.name = some (elabEntity (elabTbl older) e) := by
  have : elabTbl older e.name = none :=
    Option.not_isSome_iff_eq_none.mp (by rw [elabTbl_isSome, h]; exact Bool.false_ne_true)
  rw [elabTbl_cons, this]
  exact if_pos rfl

/-- every entity of the (reversed) library elaborates to the inlined form of the template it was emitted from -/
def TblOk (R : Tmpl) (r : List Entity) : Prop :=
  ∀ s ∈ subT R, hasName r s.name = true → ∃ f, elabTbl r s.name = some f ∧ Correct f s

theorem wfIs_of_wfT {t : Tmpl} (h : WfT t) : WfIs t.insts := by
  cases t
  exact h

/-- the table stays correct when the walk adds the entity of `t`: an older name keeps its entry, and the new name
    can only be asked for by `t` itself (`Consistent`), whose instances are all in the table already -/
theorem tblOk_add (R : Tmpl) (hc : Consistent R) (t : Tmpl) (r : List Entity)
    (hq : (∀ s ∈ subT t, s ∈ subT R) ∧ WfT t) (h1 : TblOk R r) (hn : hasName r t.name = false)
    (hch : ∀ s ∈ subIs t.insts, hasName r s.name = true) : TblOk R (emitEntity t :: r) := by
  intro s hs hhas
  by_cases hold : hasName r s.name = true
  · obtain ⟨f, hf, hcor⟩ := h1 s hs hold
    exact ⟨f, elabTbl_keep _ _ _ _ hf, hcor⟩
  · rw [hasName_cons, emitEntity_name] at hhas
    have hname : t.name = s.name := by simpa [hold] using hhas
    obtain rfl : s = t := hc s hs t (hq.1 t (self_mem_subT t)) hname.symm
    refine ⟨_, by simpa using elabTbl_new (emitEntity s) r (by simpa using hn),
      elabEntity_correct _ _ hq.2 fun ca hca => ?_⟩
    have hcs := instList_sub s.insts ca hca ca.1 (self_mem_subT _)
    exact h1 ca.1 (hq.1 _ (subIs_subset_subT s _ hcs)) (hch _ hcs)

theorem collectT_tblOk (R : Tmpl) (hc : Consistent R) : ∀ (t : Tmpl) (racc : List Entity),
    (∀ s ∈ subT t, s ∈ subT R) → WfT t → TblOk R racc → TblOk R (collectT racc t) :=
  fun t racc hsub hw => collectT_inv (Q := fun t => (∀ s ∈ subT t, s ∈ subT R) ∧ WfT t)
    (fun t hq ca hca => ⟨fun s hs => hq.1 s (subT_of_inst hca s hs),
      (WfIs_instList t.insts (wfIs_of_wfT hq.2) ca hca).2⟩)
    (tblOk_add R hc) t racc ⟨hsub, hw⟩

theorem resolve_subst (b : Binding) (l : Leaf) : resolveLeaf (substLeaf b l) = resolveBound b l := by
  cases l <;> rfl

theorem procs_subst (items : List FItem) : procsOfNets (items.map substItem) = procsOfItems items := by
  rw [procsOfNets, procsOfItems, List.filterMap_map]
  congr 1
  funext i
  cases i with
  | sig l => rfl
  | proc b l => exact congrArg some (resolve_subst b l)

theorem sigs_subst (items : List FItem) : sigsOfNets (items.map substItem) = sigsOfItems items := by
  rw [sigsOfNets, sigsOfItems, List.filterMap_map]
  congr 1
  funext i
  cases i <;> rfl

end CohdlVerif.C12
