import CohdlVerif.Model.C04

/-!
  C04 - lemmas about write lists (`applyWrites`: last write wins), the mirrored `resettable` set and the reset
  branch of the wrappers.
-/
namespace CohdlVerif.C04

variable {ι : Type}

theorem setObj_same (s : State) (r : Nat) (v : Val) : setObj s r v r = v :=
  if_pos rfl

theorem setObj_other (s : State) (r j : Nat) (v : Val) (h : j ≠ r) : setObj s r v j = s j :=
  if_neg h

theorem applyWrites_append (s : State) (a b : Writes) :
    applyWrites s (a ++ b) = applyWrites (applyWrites s a) b := by
  induction a generalizing s with
  | nil => rfl
  | cons w ws ih => exact ih _

theorem applyWrites_eq_of_forall (s : State) (ws : Writes) (r : Nat) (v : Val)
    (h1 : ∀ w ∈ ws, w.1 = r → w.2 = v) (h2 : s r = v ∨ ∃ w ∈ ws, w.1 = r) : applyWrites s ws r = v := by
  induction ws generalizing s with
  | nil => exact h2.resolve_right (fun ⟨_, hw, _⟩ => nomatch hw)
  | cons w ws ih =>
    refine ih _ (fun w' hw' => h1 w' (List.mem_cons_of_mem _ hw')) ?_
    by_cases hw : w.1 = r
    · exact Or.inl (hw ▸ (setObj_same s w.1 w.2).trans (h1 w List.mem_cons_self hw))
    · rcases h2 with h2 | ⟨w', hw', e⟩
      · exact Or.inl ((setObj_other s w.1 r w.2 (Ne.symm hw)).trans h2)
      · rcases List.mem_cons.mp hw' with rfl | hin
        · exact absurd e hw
        · exact Or.inr ⟨w', hin, e⟩

theorem applyWrites_not_mem (s : State) (ws : Writes) (r : Nat) (h : ∀ w ∈ ws, w.1 ≠ r) :
    applyWrites s ws r = s r :=
  applyWrites_eq_of_forall s ws r (s r) (fun w hw e => absurd e (h w hw)) (Or.inl rfl)

theorem applyWrites_all_eq (s : State) (ws : Writes) (r : Nat) (v : Val)
    (h1 : ∀ w ∈ ws, w.1 = r → w.2 = v) (h2 : ∃ w ∈ ws, w.1 = r) : applyWrites s ws r = v :=
  applyWrites_eq_of_forall s ws r v h1 (Or.inr h2)

theorem applyWrites_map (s : State) (rs : List Nat) (f : Nat → Val) (r : Nat) :
    applyWrites s (rs.map (fun r => (r, f r))) r = if r ∈ rs then f r else s r := by
  split
  · next h =>
    refine applyWrites_all_eq _ _ r _ (fun w hw e => ?_) ⟨(r, f r), List.mem_map_of_mem h, rfl⟩
    obtain ⟨r', -, rfl⟩ := List.mem_map.mp hw
    exact e ▸ rfl
  · next h =>
    refine applyWrites_not_mem _ _ r (fun w hw e => ?_)
    obtain ⟨r', hr', rfl⟩ := List.mem_map.mp hw
    exact h (e ▸ hr')

theorem applyWrites_agree (F : Nat → Bool) (s s' : State) (ws : Writes)
    (h : ∀ r, F r = true → s r = s' r) : ∀ r, F r = true → applyWrites s ws r = applyWrites s' ws r := by
  induction ws generalizing s s' with
  | nil => exact h
  | cons w ws ih =>
    refine ih _ _ (fun r hr => ?_)
    simp only [setObj, h r hr]

theorem mem_resettableL (objs : List Obj) (r : Nat) : r ∈ resettableL objs ↔ isResettable objs r = true := by
  simp only [resettableL, List.mem_filter, List.mem_range, and_iff_right_iff_imp]
  intro h
  refine Nat.lt_of_not_le (fun hle => ?_)
  rw [isResettable, objAt, List.getElem?_eq_none hle] at h
  cases h

/-- `cohdl.reset_context()` assigns the default to every resettable object and touches nothing else -/
theorem applyWrites_defaultWrites (objs : List Obj) (s : State) (r : Nat) :
    applyWrites s (defaultWritesL objs) r = if r ∈ resettableL objs then defaultL objs r else s r :=
  applyWrites_map s _ _ r

theorem resetBranch_of_not_onReset (p : Ctx ι) {s : State} {d : ι} {r : Nat} (hon : ∀ w ∈ p.onReset s d, w.1 ≠ r) :
    resetBranch p s d r = if r ∈ resettable p then defaultOf p r else s r := by
  rw [resetBranch, applyWrites_append, applyWrites_not_mem _ _ r hon]
  exact applyWrites_defaultWrites p.objs s r

theorem resetBranch_of_off (p : Ctx ι) {s : State} {d : ι} {F : Nat → Bool} {r : Nat} (hres : r ∈ resettable p)
    (hoff : ∀ w ∈ p.onReset s d, F w.1 = false) (hr : F r = true) : resetBranch p s d r = defaultOf p r := by
  rw [resetBranch_of_not_onReset p (fun w hw e => ?_), if_pos hres]
  rw [← e, hoff w hw] at hr
  cases hr

theorem resetBranch_onReset (p : Ctx ι) {s : State} {d : ι} {r : Nat} {v : Val}
    (h1 : ∀ w ∈ p.onReset s d, w.1 = r → w.2 = v) (h2 : ∃ w ∈ p.onReset s d, w.1 = r) :
    resetBranch p s d r = v := by
  rw [resetBranch, applyWrites_append]
  exact applyWrites_all_eq _ _ r v h1 h2

/-- the three wrappers as one: the reset branch when it is taken, else the gated body at a clock edge -/
theorem stepR_eq (p : Ctx ι) (s : State) (e : Ev ι) :
    stepR p s e = if resetTaken p.cfg e then resetBranch p s e.data else if e.edge then stepBranch p s e else s := by
  unfold stepR resetTaken
  cases p.cfg.kind with
  | sync => cases e.edge <;> cases active p.cfg e.rst <;> rfl
  | _ => rfl

theorem stepR_reset (p : Ctx ι) {s : State} {e : Ev ι} (h : resetTaken p.cfg e = true) :
    stepR p s e = resetBranch p s e.data := by
  rw [stepR_eq, if_pos h]

theorem resetTaken_of_inactive (c : Cfg) (e : Ev ι) (h : active c e.rst = false) : resetTaken c e = false := by
  unfold resetTaken
  cases c.kind <;> simp only [h, Bool.and_false]

/-- the reset code does not mention the body -/
theorem resetBranch_body_irrelevant (p : Ctx ι) (b : State → ι → Writes) (s : State) (d : ι) :
    resetBranch { p with body := b } s d = resetBranch p s d := rfl

theorem restrict_eq_of_agree (F : Nat → Bool) (s s' : State) (h : ∀ r, F r = true → s r = s' r) :
    restrict F s = restrict F s' := by
  funext r
  unfold restrict
  split
  · next hr => exact h r hr
  · rfl

theorem traceF_agree (F : Nat → Bool) (p : Ctx ι)
    (hstep : ∀ (t t' : State) (e : Ev ι), (∀ r, F r = true → t r = t' r) → ∀ r, F r = true → stepR p t e r = stepR p t' e r)
    (es : List (Ev ι)) (t t' : State) (h : ∀ r, F r = true → t r = t' r) : traceF F p t es = traceF F p t' es := by
  induction es generalizing t t' with
  | nil => rfl
  | cons e es ih =>
    have hn := hstep t t' e h
    simp only [traceF, runR, List.map_cons, List.cons.injEq]
    exact ⟨restrict_eq_of_agree F _ _ hn, ih _ _ hn⟩

/-- the state register that `withSM` appends (object number `p.objs.length`) is resettable, with the first state as default -/
theorem stateReg_resettable (p : Ctx ι) (codes : List (State → ι → Writes)) :
    p.objs.length ∈ resettable (withSM p codes) := by
  unfold resettable
  rw [mem_resettableL]
  simp [withSM, isResettable, objAt, stateObj, Obj.resettable]

theorem stateReg_default (p : Ctx ι) (codes : List (State → ι → Writes)) :
    defaultOf (withSM p codes) p.objs.length = some 0 := by
  simp [defaultOf, defaultL, withSM, objAt, stateObj]

end CohdlVerif.C04
