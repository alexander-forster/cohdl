import CohdlVerif.Lemmas.C01Inv

/-! C01 - the blocks a translation step leaves pending (`Outs`: open blocks and additions to the break / continue /
  return lists) are distinct and carry no front transition (`FPost`); composition, framing, simple statements;
  `Listed`: a block moved to one of the lists, with the statement by which the reference leaves there; `BadMono`;
  `PendS`: what a translation looks like when its single open block is still pending afterwards.
  Capital suffixes: `FwdG`, `SimG`, `compile_callG` = the general form, for every list of open blocks; `fwdW`, `simW` =
  for every well-formed (`wf`) statement.  `w..` / `W..` (`wS0`, `WCtx`) = while. -/
namespace CohdlVerif.C01

/-- blocks added to `_break_result` between `s` and `s'` -/
def dB (s s' : CSt) : List Nat := s'.brk.drop s.brk.length

/-- blocks added to `_continue_result` -/
def dC (s s' : CSt) : List Nat := s'.cont.drop s.cont.length

/-- blocks added to `returned_blocks` -/
def dR (s s' : CSt) : List Nat := s'.ret.drop s.ret.length

/-- everything that is pending after a step: open blocks and the blocks moved to the three lists -/
def Outs (s : CSt) (O' : List Nat) (s' : CSt) : List Nat := O' ++ dB s s' ++ dC s s' ++ dR s s'

theorem mem_Outs {s s' : CSt} {O' : List Nat} {y : Nat} :
    y ∈ Outs s O' s' ↔ y ∈ O' ∨ y ∈ dB s s' ∨ y ∈ dC s s' ∨ y ∈ dR s s' := by
  simp [Outs]

theorem Step.outs_r {s s' : CSt} {O O' : List Nat} (h : Step s O s' O') : ∀ y ∈ Outs s O' s', InR s O s' y := by
  intro y hy
  rcases mem_Outs.mp hy with h1 | h1 | h1 | h1
  · exact h.open_r y h1
  · exact (Adds.drop h.brk_r).2 y h1
  · exact (Adds.drop h.cont_r).2 y h1
  · exact (Adds.drop h.ret_r).2 y h1

/-- the lists of two consecutive steps -/
theorem dX_trans {s s1 s' : CSt} {O O1 O1' O' : List Nat} (h1 : Step s O s1 O1) (h2 : Step s1 O1' s' O') :
    dB s s' = dB s s1 ++ dB s1 s' ∧ dC s s' = dC s s1 ++ dC s1 s' ∧ dR s s' = dR s s1 ++ dR s1 s' :=
  ⟨Adds.drop_trans h1.brk_r h2.brk_r, Adds.drop_trans h1.cont_r h2.cont_r, Adds.drop_trans h1.ret_r h2.ret_r⟩

/-- forward invariant after a step: pending outputs are distinct and have no front transition yet -/
def FPost (s : CSt) (O' : List Nat) (s' : CSt) : Prop :=
  (Outs s O' s').Nodup ∧ ∀ y ∈ Outs s O' s', (s'.heap y).front = []

/-- `Outs s [] s'`: what the step listed -/
theorem Outs_eq {s s' : CSt} {O' : List Nat} : Outs s O' s' = O' ++ Outs s [] s' := by
  simp only [Outs, List.nil_append, List.append_assoc]

theorem mem_Outs_nil {s s' : CSt} {O' : List Nat} {y : Nat} : y ∈ Outs s O' s' ↔ y ∈ O' ∨ y ∈ Outs s [] s' := by
  rw [Outs_eq, List.mem_append]

/-- a block in range of a step but older than the step was open before it -/
theorem InR.old {s s' : CSt} {O : List Nat} {y : Nat} (h : InR s O s' y) (hy : y < s.next) : y ∈ O :=
  h.1.resolve_right (fun h => Nat.not_le_of_lt hy h.1)

theorem FPost.nodup_open {s s' : CSt} {O' : List Nat} (h : FPost s O' s') : O'.Nodup :=
  (List.nodup_append.mp (Outs_eq ▸ h.1)).1

/-- what a step listed exists afterwards and is not open -/
theorem FPost.listed_old {s s' : CSt} {O O' : List Nat} (hlt : ∀ o ∈ O, o < s.next) (T : Step s O s' O')
    (F : FPost s O' s') {y : Nat} (hy : y ∈ Outs s [] s') : y < s'.next ∧ y ∉ O' :=
  ⟨InR.lt hlt T.next_le (T.outs_r y (mem_Outs_nil.mpr (Or.inr hy))),
    fun hO => (List.nodup_append.mp (Outs_eq ▸ F.1)).2.2 y hO y hy rfl⟩

/-- pending after two steps: listed by the first or pending after the second -/
theorem Outs_perm_trans {s s1 s' : CSt} {O O1 O1' O2 O' : List Nat} (h1 : Step s O s1 O1) (h2 : Step s1 O1' s' O2) :
    (Outs s O' s').Perm (Outs s [] s1 ++ Outs s1 O' s') := by
  obtain ⟨eB, eC, eR⟩ := dX_trans h1 h2
  rw [List.perm_iff_count]
  intro a
  simp only [Outs, eB, eC, eR, List.count_append, List.count_nil]
  omega

theorem mem_Outs_trans {s s1 s' : CSt} {O O1 O1' O2 O' : List Nat} (h1 : Step s O s1 O1) (h2 : Step s1 O1' s' O2) {y : Nat} :
    y ∈ Outs s O' s' ↔ y ∈ Outs s [] s1 ∨ y ∈ Outs s1 O' s' := by
  rw [(Outs_perm_trans h1 h2).mem_iff, List.mem_append]

theorem FPost.comp {s s1 s' : CSt} {O O1 O' : List Nat} (hlt : ∀ o ∈ O, o < s.next) (h1 : Step s O s1 O1)
    (h2 : Step s1 O1 s' O') (f1 : FPost s O1 s1) (f2 : FPost s1 O' s') : FPost s O' s' := by
  -- what the first step listed is old for the second step and not open: not pending again, and untouched
  have hold : ∀ a, a ∈ Outs s [] s1 → a ∉ Outs s1 O' s' ∧ s'.heap a = s1.heap a := by
    intro a ha
    obtain ⟨hl, hn⟩ := f1.listed_old hlt h1 ha
    exact ⟨fun hm2 => hn ((h2.outs_r a hm2).old hl), h2.frame a hl hn⟩
  constructor
  · rw [(Outs_perm_trans h1 h2).nodup_iff, List.nodup_append]
    exact ⟨(List.nodup_append.mp (Outs_eq ▸ f1.1)).2.1, f2.1, fun a ha b hb e => (hold a ha).1 (e ▸ hb)⟩
  · intro y hy
    rcases (mem_Outs_trans h1 h2).mp hy with h | h
    · rw [(hold y h).2]
      exact f1.2 y (mem_Outs_nil.mpr (Or.inr h))
    · exact f2.2 y h

/-- forward specification of a translation function -/
def FwdG (f : List Nat → CSt → List Nat × CSt) (l : Bool) : Prop :=
  ∀ O s, Inv s O → (l = true → s.atStart = false) → FPost s (f O s).1 (f O s).2

theorem Outs_same {s s1 : CSt} (h : SameLists s s1) (O' : List Nat) : Outs s O' s1 = O' := by
  simp [Outs, dB, dC, dR, h.1, h.2.1, h.2.2]

theorem FPost.of_same {s s1 : CSt} {O1 : List Nat} (h : SameLists s s1) (hn : O1.Nodup)
    (hf : ∀ o ∈ O1, (s1.heap o).front = []) : FPost s O1 s1 := by
  rw [FPost, Outs_same h]
  exact ⟨hn, hf⟩

theorem CSpec.step {f : List Nat → CSt → List Nat × CSt} {l c : Bool} (h : CSpec f l c) {O : List Nat} {s : CSt}
    (hi : Inv s O) (hL : l = true → s.atStart = false) : Step s O (f O s).2 (f O s).1 :=
  (h O s hi.hlt hi.start hL).1

theorem fwd_skip (l : Bool) : FwdG (compile .skip) l :=
  fun _ s hi _ => FPost.of_same (SameLists.refl s) hi.nodup hi.front

theorem fwd_act (a : Nat) (k : Stmt) (l c : Bool) (hk : CSpec (compile k) l c) (fk : FwdG (compile k) l) :
    FwdG (compile (.act a k)) l := by
  intro O s hi hL
  have hx := HeapExt.appendAll O (.act a) O s (fun _ h => h)
  have h1 := hx.step hi.hlt.1
  have hi1 := hi.appendAll (.act a)
  have hL1 : l = true → (s.appendAll O (.act a)).atStart = false := fun h => h1.atStart_false hi.hlt.2 (hL h)
  exact FPost.comp hi.hlt.1 h1 (hk.step hi1 hL1) (FPost.of_same hx.sameLists hi.nodup hi1.front) (fk O _ hi1 hL1)

theorem fwd_brk : FwdG (compile .brk) true := by
  intro O s hi _
  simp only [compile, FPost, Outs, dB, dC, dR, List.drop_left, List.drop_length, List.append_nil, List.nil_append]
  exact ⟨hi.nodup, hi.front⟩

theorem fwd_cont : FwdG (compile .cont) true := by
  intro O s hi _
  simp only [compile, FPost, Outs, dB, dC, dR, List.drop_left, List.drop_length, List.append_nil, List.nil_append]
  exact ⟨hi.nodup, hi.front⟩

theorem fwd_ret (l : Bool) : FwdG (compile .ret) l := by
  intro O s hi _
  simp only [compile, FPost, Outs, dB, dC, dR, List.drop_left, List.drop_length, List.append_nil, List.nil_append]
  exact ⟨hi.nodup, hi.front⟩

theorem fwd_awaitF (l : Bool) : FwdG (compile .awaitF) l := by
  intro O s _ _
  simp only [compile]
  split
  · exact FPost.of_same (SameLists.refl s) (by simp) (by simp)
  · exact FPost.of_same (enterState_sameLists O s) (by simp) (by simp)

theorem fwd_await (cc : Option Nat) (k : Stmt) (l c : Bool) (hk : CSpec (compile k) l c) (fk : FwdG (compile k) l) :
    FwdG (compile (.await cc k)) l := by
  intro O s hi hL
  by_cases hO : O = []
  · subst hO
    rw [compile_await_nil]; exact fk [] s hi hL
  · rw [compile_await cc k O s hO]
    obtain ⟨_, T, L, _⟩ := await_enter cc O s hi.hlt hi.start
    have hi1 := hi.await cc
    have hL1 : l = true → (aS cc O s).atStart = false := fun h => T.atStart_false hi.hlt.2 (hL h)
    exact FPost.comp hi.hlt.1 T (hk.step hi1 hL1) (FPost.of_same L hi1.nodup hi1.front) (fk _ _ hi1 hL1)

theorem FPost.restrict {s s' : CSt} {O' O'' : List Nat} (h : FPost s O' s') (hn : O''.Nodup)
    (hsub : ∀ y ∈ O'', y ∈ O') : FPost s O'' s' := by
  have h1 := List.nodup_append.mp (Outs_eq ▸ h.1)
  constructor
  · rw [Outs_eq, List.nodup_append]
    exact ⟨hn, h1.2.1, fun a ha => h1.2.2 a (hsub a ha)⟩
  · intro y hy
    exact h.2 y (mem_Outs_nil.mpr ((mem_Outs_nil.mp hy).imp_left (hsub y)))

/-- a step on some of the open blocks leaves the other pending blocks `X` alone -/
theorem FPost.frame {s1 s' : CSt} {O1 O1' X : List Nat} (h : Step s1 O1 s' O1') (f : FPost s1 O1' s') (hX : X.Nodup)
    (hXl : ∀ x ∈ X, x < s1.next ∧ x ∉ O1 ∧ (s1.heap x).front = []) : FPost s1 (O1' ++ X) s' := by
  have hp : (Outs s1 (O1' ++ X) s').Perm (X ++ Outs s1 O1' s') := by
    rw [Outs_eq, Outs_eq (O' := O1'), ← List.append_assoc]
    exact List.perm_append_comm.append_right _
  constructor
  · rw [hp.nodup_iff, List.nodup_append]
    exact ⟨hX, f.1, fun a ha b hb e => (hXl a ha).2.1 ((h.outs_r a (e ▸ hb)).old (hXl a ha).1)⟩
  · intro y hy
    rcases List.mem_append.mp (hp.mem_iff.mp hy) with h1 | h1
    · have ⟨hl, hn, hf⟩ := hXl y h1
      rw [h.frame y hl hn]; exact hf
    · exact f.2 y h1

/-- the framed step as a `Step` on the whole list -/
theorem Step.framed {s1 s' : CSt} {O1 O1' X : List Nat} (h : Step s1 O1 s' O1') (hX : ∀ x ∈ X, x < s1.next)
    (hO1 : ∀ o ∈ O1, o < s1.next) : Step s1 (O1 ++ X) s' (O1' ++ X) :=
  h.widen (fun _ ho => List.mem_append_left _ ho) (fun x hx => (List.mem_append.mp hx).elim (hO1 x) (hX x))
    (fun o ho => (List.mem_append.mp ho).elim (fun h1 => Or.inr (h.open_r o h1))
      (fun h1 => Or.inl (List.mem_append_right _ h1)))

/-- the open blocks in another order -/
theorem FPost.perm {s0 s1 : CSt} {O0 L L' : List Nat} (hS : Step s0 O0 s1 L) (hP : FPost s0 L s1) (hp : L'.Perm L) :
    Step s0 O0 s1 L' ∧ FPost s0 L' s1 :=
  ⟨hS.shrink (fun _ ho => hp.mem_iff.mp ho),
    hP.restrict (hp.nodup_iff.mpr hP.nodup_open) (fun _ hy => hp.mem_iff.mp hy)⟩

/-- a further step `T` on the first part `O1` of the open blocks; the others stay pending untouched -/
theorem FPost.extend {s0 s1 s' : CSt} {O0 O1 O1' X : List Nat} (hl : Hlt s0 O0) (hS : Step s0 O0 s1 (O1 ++ X))
    (hP : FPost s0 (O1 ++ X) s1) (T : Step s1 O1 s' O1') (F : FPost s1 O1' s') :
    Step s0 O0 s' (O1' ++ X) ∧ FPost s0 (O1' ++ X) s' := by
  have hl1 := hS.hlt hl
  have hnd := List.nodup_append.mp hP.nodup_open
  have hX : ∀ x ∈ X, x < s1.next ∧ x ∉ O1 ∧ (s1.heap x).front = [] := fun x hx =>
    ⟨hl1.1 x (List.mem_append_right _ hx), fun hm => hnd.2.2 x hm x hx rfl,
      hP.2 x (mem_Outs.mpr (Or.inl (List.mem_append_right _ hx)))⟩
  have TF := T.framed (fun x hx => (hX x hx).1) (fun o ho => hl1.1 o (List.mem_append_left _ ho))
  exact ⟨hS.trans hl.1 TF, FPost.comp hl.1 hS TF hP (FPost.frame T F hnd.2.1 hX)⟩

theorem dX_congr {s s1 : CSt} (h : SameLists s s1) (s' : CSt) :
    dB s1 s' = dB s s' ∧ dC s1 s' = dC s s' ∧ dR s1 s' = dR s s' := by
  simp [dB, dC, dR, h.1, h.2.1, h.2.2]

theorem Outs_congr {s s1 : CSt} (h : SameLists s s1) (O' : List Nat) (s' : CSt) : Outs s1 O' s' = Outs s O' s' := by
  obtain ⟨a, b, c⟩ := dX_congr h s'
  simp [Outs, a, b, c]

/-- the `bad` flag is never reset -/
def BadMono (f : List Nat → CSt → List Nat × CSt) : Prop := ∀ O s, (f O s).2.bad = false → s.bad = false

/-- shape of a result `r` of translating from `s` with the single open block `x`, when `x` is still pending: it is
    the only open block and the lists are as before, or it is the only returned block -/
def PendR (x : Nat) (s : CSt) (r : List Nat × CSt) : Prop :=
  (x ∈ r.1 → r.1 = [x] ∧ SameLists s r.2) ∧
  (x ∈ dR s r.2 → r.1 = [] ∧ dR s r.2 = [x] ∧ r.2.brk = s.brk ∧ r.2.cont = s.cont)

def PendS (t : Stmt) : Prop :=
  ∀ x s, Inv s [x] → SInv s → s.atStart = false → PendR x s (compile t [x] s)

/-- nothing listed by the body is among its open blocks, and the three lists are disjoint and duplicate free -/
theorem FPost.lists {s s' : CSt} {O' : List Nat} (h : FPost s O' s') :
    (dB s s').Nodup ∧ (dC s s').Nodup ∧ (dR s s').Nodup ∧
    (∀ y ∈ dB s s', y ∉ O' ∧ y ∉ dC s s' ∧ y ∉ dR s s') ∧ (∀ y ∈ dC s s', y ∉ O' ∧ y ∉ dB s s' ∧ y ∉ dR s s') ∧
    (∀ y ∈ dR s s', y ∉ O' ∧ y ∉ dB s s' ∧ y ∉ dC s s') := by
  -- `Outs` is `((O' ++ dB) ++ dC) ++ dR`
  have h1 := List.nodup_append.mp h.1
  have h2 := List.nodup_append.mp h1.1
  have h3 := List.nodup_append.mp h2.1
  exact ⟨h3.2.1, h2.2.1, h1.2.1,
    fun y hy => ⟨fun hm => h3.2.2 y hm y hy rfl, fun hm => h2.2.2 y (List.mem_append_right _ hy) y hm rfl,
      fun hm => h1.2.2 y (List.mem_append_left _ (List.mem_append_right _ hy)) y hm rfl⟩,
    fun y hy => ⟨fun hm => h2.2.2 y (List.mem_append_left _ hm) y hy rfl, fun hm => h2.2.2 y (List.mem_append_right _ hm) y hy rfl,
      fun hm => h1.2.2 y (List.mem_append_right _ hy) y hm rfl⟩,
    fun y hy => ⟨fun hm => h1.2.2 y (List.mem_append_left _ (List.mem_append_left _ hm)) y hy rfl,
      fun hm => h1.2.2 y (List.mem_append_left _ (List.mem_append_right _ hm)) y hy rfl,
      fun hm => h1.2.2 y (List.mem_append_right _ hm) y hy rfl⟩⟩

/-- the step from `s` to `s'` moved block `y` to the break / continue / return list; `q` is the statement by which the
    reference leaves there -/
def Listed (s s' : CSt) (y : Nat) (q : Stmt) : Prop :=
  (y ∈ dB s s' ∧ q = .brk) ∨ (y ∈ dC s s' ∧ q = .cont) ∨ (y ∈ dR s s' ∧ q = .ret)

theorem mem_Outs_iff {s s' : CSt} {O' : List Nat} {y : Nat} : y ∈ Outs s O' s' ↔ y ∈ O' ∨ ∃ q, Listed s s' y q := by
  simp only [mem_Outs, Listed, exists_or, exists_eq_right]

/-- what two consecutive steps list is what either lists -/
theorem Listed.trans_iff {s s1 s' : CSt} {O O1 O1' O' : List Nat} (h1 : Step s O s1 O1) (h2 : Step s1 O1' s' O')
    {y : Nat} {q : Stmt} : Listed s s' y q ↔ Listed s s1 y q ∨ Listed s1 s' y q := by
  obtain ⟨tB, tC, tR⟩ := dX_trans h1 h2
  simp only [Listed, tB, tC, tR, List.mem_append, or_and_right]
  exact (or_congr_right or_or_or_comm).trans or_or_or_comm

theorem Listed.congr {s s1 : CSt} (h : SameLists s s1) {s' : CSt} {y : Nat} {q : Stmt} :
    Listed s1 s' y q ↔ Listed s s' y q := by
  obtain ⟨a, b, c⟩ := dX_congr h s'
  simp only [Listed, a, b, c]

theorem Listed.mem_Outs {s s' : CSt} {y : Nat} {q : Stmt} (h : Listed s s' y q) (O' : List Nat) : y ∈ Outs s O' s' :=
  mem_Outs_iff.mpr (Or.inr ⟨q, h⟩)

theorem Step.listed_r {s s' : CSt} {O O' : List Nat} (h : Step s O s' O') {y : Nat} {q : Stmt}
    (hl : Listed s s' y q) : InR s O s' y :=
  h.outs_r y (hl.mem_Outs O')

end CohdlVerif.C01
