import CohdlVerif.Lemmas.C01IfStruct
import CohdlVerif.Lemmas.C01WhileStruct

/-! C01 - awaited sub-coroutines, and the structural facts for every well-formed statement: `CSpec` and `FPost` by one
  induction (`compile_cf`, with `compile_spec` and `fwdW` as its two halves), the `bad` flag, blocks that cannot stay
  pending, and the shape of a result whose block still is (`PendR`, `pendS`). -/
namespace CohdlVerif.C01

theorem compile_badMono : ∀ (t : Stmt), BadMono (compile t) := by
  intro t
  induction t with
  | skip | brk | cont | ret => intro O s h; exact h
  | act a k ih => intro O s h; have := ih _ _ h; rwa [appendAll_bad] at this
  | await cc k ih =>
    intro O s h
    cases cc with
    | none =>
      rw [compile_await_none] at h
      split at h
      · exact ih _ _ h
      · have := ih _ _ h; rwa [enterState_bad] at this
    | some c' =>
      rw [compile_await_some] at h
      split at h
      · exact ih _ _ h
      · have := ih _ _ h
        rwa [itePre_bad, enterState_bad] at this
  | awaitF =>
    intro O s h
    simp only [compile] at h
    split at h
    · exact h
    · rwa [enterState_bad] at h
  | ite c t e k iht ihe ihk =>
    intro O s h
    rw [compile_ite] at h
    split at h
    · exact iteLoop_badMono c _ _ iht ihe _ _ _ h
    · exact iteLoop_badMono c _ _ iht ihe _ _ _ (ihk _ _ h)
  | while_ cc b k ihb ihk =>
    intro O s h
    rw [compile_while] at h
    have h4 := contLoop_badMono _ _ _ _ _ ((wSX_bad cc b O s).symm.trans (ihk _ _ h))
    have hR : (wR b O s).2.bad = false := (CSt.addfrontAll_bad _ _ _).symm.trans h4
    have h1 := ihb _ _ hR
    exact (wS1_bad O s).symm.trans h1
  | call b k ihb ihk =>
    intro O s h
    rw [compile_call] at h
    split at h
    · exact ihk _ _ h
    · have h1 := ihk _ _ h
      exact ihb O { s with ret := [] } h1

theorem mem_cRes {b : Stmt} {O : List Nat} {s : CSt} {y : Nat} :
    y ∈ cRes b O s ↔ y ∈ (compile b O (cIn s)).1 ∨ y ∈ dR (cIn s) (compile b O (cIn s)).2 := List.mem_append

/-- pending after the body of a call, seen from the caller: the same blocks, the returned ones among the open ones -/
theorem call_outs (b : Stmt) (O : List Nat) (s : CSt) :
    (Outs s (cRes b O s) (cOut b O s)).Perm (Outs (cIn s) (compile b O (cIn s)).1 (compile b O (cIn s)).2) := by
  have eB : dB s (cOut b O s) = dB (cIn s) (compile b O (cIn s)).2 := rfl
  have eC : dC s (cOut b O s) = dC (cIn s) (compile b O (cIn s)).2 := rfl
  have eR : dR s (cOut b O s) = [] := List.drop_length
  have eR' : dR (cIn s) (compile b O (cIn s)).2 = (compile b O (cIn s)).2.ret := rfl
  rw [List.perm_iff_count]
  intro a
  simp only [Outs, cRes, eB, eC, eR, eR', List.count_append, List.count_nil]
  omega

/-- a call: the body is translated in `cIn s`; from the caller it is the step `BW` to `cOut`, returned blocks open again -/
structure CCtx (b : Stmt) (O : List Nat) (s : CSt) : Prop where
  hiIn : Inv (cIn s) O
  BW : Step s O (cOut b O s) (cRes b O s)
  P1 : FPost s (cRes b O s) (cOut b O s)
  hi2 : Inv (cOut b O s) (cRes b O s)

theorem cctx (b : Stmt) (hb : CSpec (compile b) false true) (fb : FwdG (compile b) false) (O : List Nat) (s : CSt)
    (hi : Inv s O) : CCtx b O s := by
  have hiIn : Inv (cIn s) O := ⟨hi.hlt, hi.start, hi.nodup, hi.front⟩
  obtain ⟨_, BW, hst⟩ := call_body b hb O s hi.hlt hi.start
  have FB := fb O (cIn s) hiIn (fun h => nomatch h)
  have P1 : FPost s (cRes b O s) (cOut b O s) :=
    ⟨(call_outs b O s).nodup_iff.mpr FB.1, fun y hy => FB.2 y ((call_outs b O s).mem_iff.mp hy)⟩
  exact ⟨hiIn, BW, P1, ⟨BW.hlt hi.hlt, hst, P1.nodup_open, fun o ho => P1.2 o (mem_Outs.mpr (Or.inl ho))⟩⟩

theorem fwd_call (b k : Stmt) (l c : Bool) (hb : CSpec (compile b) false true) (hk : CSpec (compile k) l c)
    (fb : FwdG (compile b) false) (fk : FwdG (compile k) l) : FwdG (compile (.call b k)) l := by
  intro O s hi hL
  by_cases hO : O = []
  · subst hO
    rw [compile_call_nil]; exact fk [] s hi hL
  · rw [compile_callG b k O s hO]
    have C := cctx b hb fb O s hi
    have hL2 := fun h => C.BW.atStart_false hi.hlt.2 (hL h)
    exact FPost.comp hi.hlt.1 C.BW (hk.step C.hi2 hL2) C.P1 (fk _ _ C.hi2 hL2)

/-- both summaries of `compile`, by one induction over the grammar: `FwdG` of a statement needs `CSpec` of its parts
    (the `Step`s that `FPost.comp` composes) -/
theorem compile_cf : ∀ (p : Stmt) (l c : Bool), wf p l c = true → CSpec (compile p) l c ∧ FwdG (compile p) l := by
  intro p
  induction p with
  | skip => intro l c _; exact ⟨skip_spec l c, fwd_skip l⟩
  | act a k ih =>
    intro l c h
    have hk := ih l c (by simpa [wf] using h)
    exact ⟨act_spec a k l c hk.1, fwd_act a k l c hk.1 hk.2⟩
  | await cc k ih =>
    intro l c h
    have hk := ih l c (by simpa [wf] using h)
    exact ⟨await_spec cc k l c hk.1, fwd_await cc k l c hk.1 hk.2⟩
  | awaitF =>
    intro l c h
    have : c = false := by simpa [wf] using h
    subst this; exact ⟨awaitF_spec l, fwd_awaitF l⟩
  | ite cc t e k iht ihe ihk =>
    intro l c h
    simp only [wf, Bool.and_eq_true] at h
    have ht := iht l c h.1.1
    have he := ihe l c h.1.2
    have hk := ihk l c h.2
    exact ⟨ite_spec cc t e k l c ht.1 he.1 hk.1, fwd_ite cc t e k l c ht.1 he.1 hk.1 ht.2 he.2 hk.2⟩
  | while_ cc b k ihb ihk =>
    intro l c h
    simp only [wf, Bool.and_eq_true] at h
    have hb := ihb true c h.1
    have hk := ihk l c h.2
    exact ⟨while_spec cc b k l c hb.1 hk.1, fwd_while cc b k l c hb.1 hk.1 hb.2 hk.2⟩
  | brk => intro l c h; have : l = true := by simpa [wf] using h
           subst this; exact ⟨brk_spec c, fwd_brk⟩
  | cont => intro l c h; have : l = true := by simpa [wf] using h
            subst this; exact ⟨cont_spec c, fwd_cont⟩
  | ret => intro l c h; have : c = true := by simpa [wf] using h
           subst this; exact ⟨ret_spec l, fwd_ret l⟩
  | call b k ihb ihk =>
    intro l c h
    simp only [wf, Bool.and_eq_true] at h
    have hb := ihb false true h.1
    have hk := ihk l c h.2
    exact ⟨call_spec b k l c hb.1 hk.1, fwd_call b k l c hb.1 hk.1 hb.2 hk.2⟩

/-- structural summary of `compile` for every well-formed statement -/
theorem compile_spec (p : Stmt) (l c : Bool) (h : wf p l c = true) : CSpec (compile p) l c := (compile_cf p l c h).1

theorem fwdW (t : Stmt) (l c : Bool) (h : wf t l c = true) : FwdG (compile t) l := (compile_cf t l c h).2

/-- a block with a front transition is not among the pending outputs -/
theorem front_not_pending {s s' : CSt} {O' : List Nat} (h : FPost s O' s') {x : Nat} (hf : (s'.heap x).front ≠ []) :
    x ∉ Outs s O' s' := fun hm => hf (h.2 x hm)

theorem suffix_ne_nil {α : Type} {a b : List α} (h : a <:+ b) (ha : a ≠ []) : b ≠ [] := by
  obtain ⟨t, rfl⟩ := h
  intro e
  exact ha (List.append_eq_nil_iff.mp e).2

/-- after a non-fresh `await` the block it was reached from is no longer pending -/
theorem await_not_pending (cc : Option Nat) (k : Stmt) (l c : Bool) (hk : wf k l c = true) (x : Nat) (s : CSt)
    (hi : Inv s [x]) (hA : s.atStart = false) :
    x ∉ Outs s (compile (.await cc k) [x] s).1 (compile (.await cc k) [x] s).2 := by
  have hw : wf (.await cc k) l c = true := by simpa [wf] using hk
  have F := fwdW (.await cc k) l c hw [x] s hi (fun _ => hA)
  apply front_not_pending F
  obtain ⟨_, _, e3, _, _, _, e7, _⟩ := enter_nostart_facts hi hA
  have hx := hi.hlt.1 x (by simp)
  have hf0 : ((enterState [x] s).2.2.heap x).front ≠ [] := by rw [e7 x (by simp)]; simp
  rw [compile_await cc k [x] s (List.cons_ne_nil _ _)]
  obtain ⟨E, T, _, _⟩ := await_enter cc [x] s hi.hlt hi.start
  have Tk := (compile_spec k l c hk).step (hi.await cc) (fun _ => T.atStart_false hi.hlt.2 hA)
  exact suffix_ne_nil ((E.front_mono x (by omega)).trans (Tk.front_mono x (by have := E.next_le; omega))) hf0

theorem awaitF_not_pending (x : Nat) (s : CSt) : x ∉ Outs s (compile .awaitF [x] s).1 (compile .awaitF [x] s).2 := by
  have e : compile .awaitF [x] s = ([], (enterState [x] s).2.2) := by simp [compile]
  rw [e, Outs_same (enterState_sameLists [x] s)]
  exact List.not_mem_nil

/-- after a loop entered after the start the block it was reached from is no longer pending -/
theorem while_not_pending (cc : Option Nat) (b k : Stmt) (l c : Bool) (hb : wf b true c = true) (hk : wf k l c = true)
    (x : Nat) (s : CSt) (hi : Inv s [x]) (hsi : SInv s) (hA : s.atStart = false) :
    x ∉ Outs s (compile (.while_ cc b k) [x] s).1 (compile (.while_ cc b k) [x] s).2 := by
  have hw : wf (.while_ cc b k) l c = true := by simp [wf, hb, hk]
  have F := fwdW (.while_ cc b k) l c hw [x] s hi (fun _ => hA)
  apply front_not_pending F
  rw [compile_while]
  have hx := hi.hlt.1 x (by simp)
  obtain ⟨_, _, f4, _, _, f8⟩ := wS1_ns [x] s hi hA
  have X := wctx cc b c (compile_spec b true c hb) (fwdW b true c hb) [x] s hi hsi
  have hlw := X.W.hlt hi.hlt
  obtain ⟨XF, _, AX, _⟩ := wSX_facts cc b [x] s hlw X.A5
  have hlx := XF.hlt hlw
  have Tk := ((compile_spec k l c hk) _ _ hlx (fun h => by rw [AX] at h; cases h) (fun _ => AX)).1
  -- the block got its transition when the loop was entered, and a front transition is never removed
  obtain ⟨S14, _⟩ := wS4_step b c (compile_spec b true c hb) [x] s hi.hlt hi.start
  have hf1 : ((wS1 [x] s).heap x).front ≠ [] := by rw [f8 x (by simp)]; simp
  have hx1 : x < (wS1 [x] s).next := by rw [f4]; exact Nat.lt_add_right 2 hx
  have hx4 := Nat.lt_of_lt_of_le hx1 S14.next_le
  have hx5 := Nat.lt_of_lt_of_le hx4 X.CL.next_le
  exact suffix_ne_nil ((((S14.front_mono x hx1).trans (X.CL.front_mono x hx4)).trans (XF.front_mono x hx5)).trans
    (Tk.front_mono x (Nat.lt_of_lt_of_le hx5 XF.next_le))) hf1

/-- a prefix of the translation that leaves the lists alone does not matter -/
theorem PendR.of_sameLists {x : Nat} {s s1 : CSt} {r : List Nat × CSt} (hs : SameLists s s1) (h : PendR x s1 r) :
    PendR x s r := by
  obtain ⟨_, _, eR⟩ := dX_congr hs r.2
  unfold PendR
  rw [← eR]
  exact ⟨fun hm => ⟨(h.1 hm).1, hs.trans (h.1 hm).2⟩,
    fun hm => ⟨(h.2 hm).1, (h.2 hm).2.1, (h.2 hm).2.2.1.trans hs.1, (h.2 hm).2.2.2.trans hs.2.1⟩⟩

/-- a claim about the block `x` being open or returned afterwards need only be shown when `x` is pending, counted
    from any state `s1` with the return list of `s` -/
theorem of_pending {x : Nat} {s s1 : CSt} {r : List Nat × CSt} {A B : Prop} (hR : dR s1 r.2 = dR s r.2)
    (h : x ∈ Outs s1 r.1 r.2 → (x ∈ r.1 → A) ∧ (x ∈ dR s r.2 → B)) : (x ∈ r.1 → A) ∧ (x ∈ dR s r.2 → B) :=
  ⟨fun hm => (h (mem_Outs.mpr (Or.inl hm))).1 hm,
    fun hm => (h (mem_Outs.mpr (Or.inr (Or.inr (Or.inr (hR ▸ hm)))))).2 hm⟩

theorem of_not_pending {x : Nat} {s : CSt} {r : List Nat × CSt} {A B : Prop} (h : x ∉ Outs s r.1 r.2) :
    (x ∈ r.1 → A) ∧ (x ∈ dR s r.2 → B) :=
  of_pending rfl (fun hn => (h hn).elim)

/-- when the caller's block is pending after the body of a call, it is the only such block, and the body left the
    break / continue lists alone -/
theorem call_pend {b : Stmt} {x : Nat} {s : CSt} (pb : PendS b) (C : CCtx b [x] s) (hsi : SInv s)
    (hA : s.atStart = false) (hm : x ∈ cRes b [x] s) :
    cRes b [x] s = [x] ∧ (cOut b [x] s).brk = s.brk ∧ (cOut b [x] s).cont = s.cont := by
  obtain ⟨b1, b2⟩ := pb x (cIn s) C.hiIn ⟨hsi.states_lt, hsi.root0, hsi.states0⟩ hA
  rcases mem_cRes.mp hm with hm | hm
  · obtain ⟨e1, e2⟩ := b1 hm
    have e3 : (compile b [x] (cIn s)).2.ret = [] := e2.2.2
    exact ⟨by rw [cRes, e1, e3]; rfl, e2.1, e2.2.1⟩
  · obtain ⟨e1, e2, e3, e4⟩ := b2 hm
    have e2 : (compile b [x] (cIn s)).2.ret = [x] := e2
    exact ⟨by rw [cRes, e1, e2]; rfl, e3, e4⟩

theorem pendS : ∀ (t : Stmt) (l c : Bool), wf t l c = true → PendS t := by
  intro t
  induction t with
  | skip =>
    intro l c _ x s _ _ _
    exact ⟨fun _ => ⟨rfl, SameLists.refl s⟩, fun h => by simp [compile, dR] at h⟩
  | act a k ih =>
    intro l c h x s hi hsi hA
    rw [compile_act_single]
    have hx := HeapExt.append s [x] x (by simp) (.act a)
    have hA1 := (hx.step hi.hlt.1).atStart_false hi.hlt.2 hA
    exact (ih l c (by simpa [wf] using h) x _ (hi.single_append _) (hsi.step (hx.step hi.hlt.1) hi.hlt.2) hA1).of_sameLists hx.sameLists
  | await cc k _ =>
    intro l c h x s hi _ hA
    exact of_not_pending (await_not_pending cc k l c (by simpa [wf] using h) x s hi hA)
  | awaitF => intro l c _ x s _ _ _; exact of_not_pending (awaitF_not_pending x s)
  | ite cc t e k iht ihe ihk =>
    intro l c h x s hi hsi hA
    simp only [wf, Bool.and_eq_true] at h
    refine of_pending rfl (fun hn => ?_)
    obtain ⟨X, hat, hae, heq, _, hi5, _⟩ := ite_pend cc t e k l c (compile_spec t l c h.1.1) (compile_spec e l c h.1.2)
      (compile_spec k l c h.2) x s hi hsi hn
    rw [heq]
    exact (ihk l c h.2 x (iR5 t e cc x s).2 hi5 X.hsi5 X.hA5).of_sameLists
      (ite_pend_sameLists (iht l c h.1.1) (ihe l c h.1.2) X hat hae)
  | while_ cc b k _ _ =>
    intro l c h x s hi hsi hA
    simp only [wf, Bool.and_eq_true] at h
    exact of_not_pending (while_not_pending cc b k l c h.1 h.2 x s hi hsi hA)
  | brk | cont | ret => intro l c _ x s _ _ _; simp [PendR, compile, dR]
  | call b k ihb ihk =>
    intro l c h x s hi hsi hA
    simp only [wf, Bool.and_eq_true] at h
    rw [compile_callG b k [x] s (by simp)]
    have C := cctx b (compile_spec b false true h.1) (fwdW b false true h.1) [x] s hi
    have hA2 := C.BW.atStart_false hi.hlt.2 hA
    have Tk := (compile_spec k l c h.2).step C.hi2 (fun _ => hA2)
    refine of_pending (s1 := cOut b [x] s) rfl (fun hn => ?_)
    -- `x` is older than the call, so it was pending after the body, and then the body was plain
    have hx := Nat.lt_of_lt_of_le (hi.hlt.1 x (List.mem_singleton.mpr rfl)) C.BW.next_le
    obtain ⟨er, eb, ec⟩ := call_pend (ihb false true h.1) C hsi hA ((Tk.outs_r x hn).old hx)
    have hi2 := C.hi2
    rw [er] at hi2 ⊢
    exact (ihk l c h.2 x (cOut b [x] s) hi2 (hsi.step C.BW hi.hlt.2) hA2).of_sameLists ⟨eb, ec, rfl⟩

end CohdlVerif.C01
