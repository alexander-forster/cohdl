import CohdlVerif.Lemmas.C13Mro
/-! C13 part A - the two ways of computing `issubclass` agree: membership in the C3 linearisation (what Python does)
    = reachability along `__bases__` (`issub`, the relation the lattice theorems are about) -/
namespace CohdlVerif.C13

/-- a C3 merge neither loses nor invents a class: the linearisation of `k` consists of `k` and the linearisations
    of its bases -/
theorem mem_mroK (k : Key) (hg : goodKey k = true) (x : Key) :
    x ∈ mroK k ↔ x = k ∨ ∃ b ∈ baseKeys k, x ∈ mroK b := by
  rw [mroK_cons k, List.mem_cons, c3merge_mem _ _ _ (mroK_c3 k hg) x]
  simp only [keyLists, List.mem_append, List.mem_map, List.mem_singleton]
  constructor
  · rintro (h | ⟨l, ⟨b, hb, rfl⟩ | rfl, hx⟩)
    · exact Or.inl h
    · exact Or.inr ⟨b, hb, hx⟩
    · exact Or.inr ⟨x, hx, by rw [mroK_cons x]; exact List.mem_cons_self⟩
  · rintro (h | ⟨b, hb, hx⟩)
    · exact Or.inl h
    · exact Or.inr ⟨_, Or.inl ⟨b, hb, rfl⟩, hx⟩

/-- the linearisation of `k` has the members of the closure of `baseKeys`, at any depth from the rank of `k` on:
    induction on the depth with `mem_mroK`, bases having smaller rank -/
theorem mroK_mem_anc (x : Key) : ∀ (n : Nat) (k : Key), goodKey k = true → rank k ≤ n → (x ∈ mroK k ↔ x ∈ anc n k) := by
  intro n
  induction n with
  | zero =>
    intro k hg hr
    rw [mem_mroK k hg, rank_zero_bases k (by omega)]
    simp [anc]
  | succ n ih =>
    intro k hg hr
    rw [mem_mroK k hg]
    simp only [anc, List.mem_cons, List.mem_flatMap]
    refine or_congr_right (exists_congr fun b => and_congr_right fun hb => ?_)
    have := rank_base_lt k b hb
    exact ih b (baseKeys_good k b hb) (by omega)

theorem mroK_mem (k : Key) (hg : goodKey k = true) (x : Key) : x ∈ mroK k ↔ x ∈ anc (rank k) k :=
  mroK_mem_anc x (rank k) k hg (Nat.le_refl _)

theorem q_mem_mroK (q1 q2 : QKind) (d1 d2 : Option Dir) (t t2 : Key) :
    Key.q q2 d2 t2 ∈ mroK (.q q1 d1 t) ↔
      .q q2 d2 t2 ∈ qChain q1 d1 t ∨ (q1 = .port ∧ .q q2 d2 t2 ∈ qChain .signal none t) := by
  cases q1 <;> simp [mroK, tqTail]

theorem qChain_sub_mroK (qk : QKind) (d : Option Dir) (t x : Key) (hx : x ∈ qChain qk d t) : x ∈ mroK (.q qk d t) := by
  cases qk <;> simp [mroK, hx]

/-- within one qualifier family a vector class has itself and, if it is Unsigned / Signed, the DOWNTO `BitVector` of its
    width above it, and no other vector class -/
theorem qvec_mem_qChain (qk q2 : QKind) (d d2 : Option Dir) (k k2 : VKind) (o o2 : Order) (w w2 : Nat) :
    Key.q q2 d2 (.vec k2 o2 w2) ∈ qChain qk d (.vec k o w) ↔
      (q2 = qk ∧ d2 = d) ∧ w2 = w ∧ ((k2 = k ∧ o2 = o) ∨ (k ≠ .bv ∧ k2 = .bv ∧ o2 = .downto)) := by
  cases k <;> cases k2 <;> simp [qChain, chainA, and_assoc, and_comm, and_left_comm]

theorem qvec_mem_mroK (q1 q2 : QKind) (d1 d2 : Option Dir) (k1 k2 : VKind) (o1 o2 : Order) (w1 w2 : Nat) :
    Key.q q2 d2 (.vec k2 o2 w2) ∈ mroK (.q q1 d1 (.vec k1 o1 w1)) ↔ qvecLe q1 d1 k1 o1 w1 q2 d2 k2 o2 w2 := by
  rw [q_mem_mroK, qvec_mem_qChain, qvec_mem_qChain, ← and_assoc (a := q1 = .port), ← or_and_right]
  rfl

theorem mro_mem_iff_issub (st : St) (hI : Inv st) (hlen : fuel ≤ st.length) (k1 k2 : Key) (i j : Nat) (m : List Nat)
    (h1 : find st k1 = some i) (h2 : find st k2 = some j) (hm : m.map some = (mroK k1).map (find st)) :
    j ∈ m ↔ issub st i j = true := by
  obtain ⟨c, hc, hck⟩ := find_key st k1 i h1
  have hg : goodKey k1 = true := hck ▸ hI.good c (List.mem_of_getElem? hc)
  rw [issub_iff st hI hlen k1 k2 i j h1 h2, ← mroK_mem k1 hg k2]
  constructor
  · intro hj
    obtain ⟨x, hx, hfx⟩ := key_of_map_eq hm.symm hj
    rwa [find_inj st k2 x j h2 hfx]
  · intro hk
    obtain ⟨y, hy, he⟩ := found_of_map_eq hm.symm hk
    rwa [Option.some.inj (h2.symm.trans he)]

end CohdlVerif.C13
