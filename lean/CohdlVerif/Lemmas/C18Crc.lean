import CohdlVerif.Model.C18
/-!
  C18: BitwiseCrc.  The register after any bit sequence is the remainder of the bitwise polynomial long
  division of the whole message.
-/
namespace CohdlVerif.C18

theorem xorPre_xorPre (a b : List Bool) (h : a.length = b.length) :
    ∀ d : List Bool, xorPre a (xorPre b d) = xorPre (bxor a b) d := by
  induction a generalizing b with
  | nil => intro d; cases b <;> simp_all [xorPre, bxor]
  | cons x a ih =>
    intro d
    cases b with
    | nil => simp at h
    | cons y b =>
      cases d with
      | nil => rfl
      | cons z d =>
        rw [List.length_cons, List.length_cons, Nat.add_right_cancel_iff] at h
        simp only [xorPre, bxor, List.zipWith_cons_cons, List.cons.injEq, Bool.xor_assoc, true_and]
        exact ih b h d

theorem xorPre_falses (r : List Bool) : xorPre r (List.replicate r.length false) = r := by
  induction r with
  | nil => rfl
  | cons a r ih => simp [List.replicate_succ, xorPre, ih]

theorem xorPre_snoc_false (r : List Bool) : ∀ d : List Bool, xorPre (r ++ [false]) d = xorPre r d := by
  induction r with
  | nil => intro d; cases d <;> simp [xorPre]
  | cons a r ih => intro d; cases d <;> simp [xorPre, ih]

theorem bxor_comm (a b : List Bool) : bxor a b = bxor b a := by
  unfold bxor
  rw [List.zipWith_comm]
  congr 1; funext x y; exact Bool.xor_comm y x

/-- On the register written most significant bit first, `update` drops the leading bit, appends a zero and
    xors the generator in when leading bit and data bit differ: one step of the long division. -/
theorem crcStep_reverse (poly : Bits) (r0 : Bool) (R : List Bool) (d : Bool) (h : R.length + 1 = poly.length) :
    crcStep poly (r0 :: R).reverse d = (if xor r0 d then bxor poly.reverse (R ++ [false]) else R ++ [false]).reverse := by
  have hlast : (r0 :: R).reverse.getLastD false = r0 := by simp
  have hdrop : (r0 :: R).reverse.dropLast = R.reverse := by simp
  simp only [crcStep, hlast, hdrop]
  split
  · rw [bxor_comm poly.reverse]
    unfold bxor
    rw [List.reverse_zipWith (by simp; omega), List.reverse_reverse, List.reverse_append]
    rfl
  · simp

theorem crc_division (poly : Bits) (hw : 1 ≤ poly.length) : ∀ (msg : List Bool) (R : List Bool), R.length = poly.length →
    polyRem poly.reverse msg.length (xorPre R (msg ++ List.replicate poly.length false))
      = (crcIter poly R.reverse msg).reverse := by
  intro msg
  induction msg with
  | nil =>
    intro R h
    rw [List.length_nil, polyRem, List.nil_append, ← h, xorPre_falses, crcIter, List.foldl_nil, List.reverse_reverse]
  | cons d m ih =>
    intro R h
    cases R with
    | nil => rw [← h] at hw; cases hw
    | cons r0 R' =>
      rw [List.length_cons] at h
      have hlen : (if xor r0 d then bxor poly.reverse (R' ++ [false]) else R' ++ [false]).length = poly.length := by
        split <;> simp [bxor] <;> omega
      simp only [List.length_cons, List.cons_append, xorPre, polyRem, crcIter, List.foldl_cons]
      rw [crcStep_reverse poly r0 R' d h, ← crcIter, ← ih _ hlen]
      congr 1
      split
      · rw [← xorPre_snoc_false R', xorPre_xorPre _ _ (by simp; omega)]
      · rw [xorPre_snoc_false]

end CohdlVerif.C18
