import CohdlVerif.Model.C13Types
/-! C3 merge commutes with a renaming that is injective on the elements involved -/
namespace CohdlVerif.C13

variable {α β : Type} [DecidableEq α] [DecidableEq β]

def InjOn (f : α → β) (S : α → Prop) : Prop := ∀ a b, S a → S b → f a = f b → a = b

theorem mem_dropHead (h : α) (l : List α) (y : α) (hy : y ∈ dropHead h l) : y ∈ l := by
  cases l with
  | nil => simp [dropHead] at hy
  | cons x t =>
    simp only [dropHead] at hy
    split at hy
    · simp [hy]
    · exact hy

theorem pickHead_mem (ls : List (List α)) : ∀ (rs : List (List α)) (h : α), pickHead ls rs = some h → ∃ l ∈ rs, h ∈ l := by
  intro rs
  induction rs with
  | nil => intro h hp; simp [pickHead] at hp
  | cons r rs ih =>
    intro h hp
    cases r with
    | nil =>
      simp only [pickHead] at hp
      obtain ⟨l, hl, hm⟩ := ih h hp
      exact ⟨l, by simp [hl], hm⟩
    | cons x t =>
      simp only [pickHead] at hp
      split at hp
      · obtain ⟨l, hl, hm⟩ := ih h hp
        exact ⟨l, by simp [hl], hm⟩
      · simp at hp; subst hp; exact ⟨x :: t, by simp, by simp⟩

theorem filter_ne_nil_map (f : α → β) (ls : List (List α)) :
    (ls.map (List.map f)).filter (· ≠ []) = (ls.filter (· ≠ [])).map (List.map f) := by
  simp [List.filter_map, Function.comp_def]

section
variable {f : α → β} {S : α → Prop} (hinj : InjOn f S)
include hinj

theorem contains_map (x : α) (l : List α) (hx : S x) (hl : ∀ y ∈ l, S y) : (l.map f).contains (f x) = l.contains x := by
  rw [Bool.eq_iff_iff]
  simp only [List.contains_iff_mem, List.mem_map]
  constructor
  · rintro ⟨y, hy, he⟩
    rw [← hinj y x (hl y hy) hx he]; exact hy
  · intro h; exact ⟨x, h, rfl⟩

theorem inTail_map (x : α) (l : List α) (hx : S x) (hl : ∀ y ∈ l, S y) : inTail (f x) (l.map f) = inTail x l := by
  cases l with
  | nil => rfl
  | cons h t => simp only [List.map_cons, inTail]; exact contains_map hinj x t hx (fun y hy => hl y (by simp [hy]))

theorem any_inTail_map (x : α) (ls : List (List α)) (hx : S x) (hl : ∀ l ∈ ls, ∀ y ∈ l, S y) :
    (ls.map (List.map f)).any (inTail (f x)) = ls.any (inTail x) := by
  induction ls with
  | nil => rfl
  | cons l ls ih =>
    simp only [List.map_cons, List.any_cons]
    rw [inTail_map hinj x l hx (hl l (by simp)), ih (fun l' hl' => hl l' (by simp [hl']))]

theorem pickHead_map (ls : List (List α)) (hl : ∀ l ∈ ls, ∀ y ∈ l, S y) :
    ∀ (rs : List (List α)), (∀ l ∈ rs, ∀ y ∈ l, S y) →
      pickHead (ls.map (List.map f)) (rs.map (List.map f)) = (pickHead ls rs).map f := by
  intro rs
  induction rs with
  | nil => intro _; rfl
  | cons r rs ih =>
    intro hr
    have ih' := ih (fun l hl' => hr l (by simp [hl']))
    cases r with
    | nil => simpa [pickHead] using ih'
    | cons h t =>
      simp only [List.map_cons, pickHead]
      rw [any_inTail_map hinj h ls (hr (h :: t) (by simp) h (by simp)) hl]
      split
      · exact ih'
      · rfl

theorem dropHead_map (h : α) (l : List α) (hh : S h) (hl : ∀ y ∈ l, S y) : dropHead (f h) (l.map f) = (dropHead h l).map f := by
  cases l with
  | nil => rfl
  | cons x t =>
    simp only [List.map_cons, dropHead]
    by_cases hx : x = h
    · simp [hx]
    · have : f x ≠ f h := fun he => hx (hinj x h (hl x (by simp)) hh he)
      simp [hx, this]

theorem c3merge_map : ∀ (n : Nat) (ls : List (List α)), (∀ l ∈ ls, ∀ y ∈ l, S y) →
    c3merge n (ls.map (List.map f)) = (c3merge n ls).map (List.map f) := by
  intro n
  induction n with
  | zero => intro ls _; rfl
  | succ n ih =>
    intro ls hl
    simp only [c3merge]
    rw [filter_ne_nil_map, List.isEmpty_map]
    have hl' : ∀ l ∈ ls.filter (· ≠ []), ∀ y ∈ l, S y := fun l hm => hl l (List.mem_filter.mp hm).1
    generalize ls.filter (· ≠ []) = fs at hl'
    split
    · rfl
    · rw [pickHead_map hinj fs hl' fs hl']
      cases hp : pickHead fs fs with
      | none => rfl
      | some h =>
        obtain ⟨l0, hl0, hm0⟩ := pickHead_mem fs fs h hp
        have hh : S h := hl' l0 hl0 h hm0
        simp only [Option.map_some]
        have hmap : (fs.map (List.map f)).map (dropHead (f h)) = (fs.map (dropHead h)).map (List.map f) := by
          simp only [List.map_map]
          exact List.map_congr_left fun l hlm => dropHead_map hinj h l hh (hl' l hlm)
        rw [hmap, ih (fs.map (dropHead h)) (by
          intro l hlm y hy
          obtain ⟨l1, hl1, rfl⟩ := List.mem_map.mp hlm
          exact hl' l1 hl1 y (mem_dropHead h l1 y hy))]
        cases c3merge n (fs.map (dropHead h)) <;> rfl

end

theorem mem_dropHead_or (h : α) (l : List α) (y : α) (hy : y ∈ l) : y = h ∨ y ∈ dropHead h l := by
  cases l with
  | nil => cases hy
  | cons x t =>
    simp only [dropHead]
    split
    · rename_i hx; subst hx; simpa using hy
    · exact Or.inr hy

theorem c3merge_mem : ∀ (n : Nat) (ls : List (List α)) (r : List α), c3merge n ls = some r →
    ∀ x, x ∈ r ↔ ∃ l ∈ ls, x ∈ l := by
  intro n
  induction n with
  | zero => intro ls r h; simp [c3merge] at h
  | succ n ih =>
    intro ls r h x
    have hfs : (∃ l ∈ ls, x ∈ l) ↔ ∃ l ∈ ls.filter (· ≠ []), x ∈ l :=
      ⟨fun ⟨l, hl, hx⟩ => ⟨l, List.mem_filter.mpr ⟨hl, by simpa using List.ne_nil_of_mem hx⟩, hx⟩,
       fun ⟨l, hl, hx⟩ => ⟨l, (List.mem_filter.mp hl).1, hx⟩⟩
    rw [hfs]
    simp only [c3merge] at h
    generalize ls.filter (· ≠ []) = fs at h
    split at h
    · next he =>
      cases h
      simp [List.isEmpty_iff.mp he]
    · split at h
      · cases h
      · next hd hp =>
        split at h
        · cases h
        · next r' hr =>
          cases h
          rw [List.mem_cons, ih _ r' hr x]
          constructor
          · rintro (rfl | ⟨l, hl, hm⟩)
            · exact pickHead_mem _ _ _ hp
            · obtain ⟨l1, hl1, rfl⟩ := List.mem_map.mp hl
              exact ⟨l1, hl1, mem_dropHead hd l1 x hm⟩
          · rintro ⟨l, hl, hm⟩
            exact (mem_dropHead_or hd l x hm).imp_right fun h' => ⟨_, List.mem_map_of_mem hl, h'⟩

end CohdlVerif.C13
