import CohdlVerif.Model.C17

/-!
  C17 - lemmas: the offset accumulation of `_make_serializable` and the reversed `concat` of the mirror are the plain
  concatenation layout of the spec functions; on those, encode-then-decode (`spec_roundtrip`) and decode-then-encode
  (`spec_decode`) are one induction each; `readPath` / `writePath` through nested sub-bitfields are `slice` /
  `writeSlice` at the absolute offset.  `STy` / `SVal` are nested inductives: the proofs are mutual structural recursions.
-/
namespace CohdlVerif.C17

theorem length_natBits : ∀ (w n : Nat), (natBits w n).length = w
  | 0, _ => rfl
  | w + 1, n => by simp [natBits, length_natBits w]

theorem bitsNat_lt : ∀ (b : Bits), bitsNat b < 2 ^ b.length
  | [] => by simp [bitsNat]
  | x :: xs => by
    have := bitsNat_lt xs
    simp only [bitsNat, List.length_cons, Nat.pow_succ]
    split <;> omega

theorem bitsNat_natBits : ∀ (w n : Nat), n < 2 ^ w → bitsNat (natBits w n) = n
  | 0, n, h => by simp at h; simp [natBits, bitsNat, h]
  | w + 1, n, h => by
    have ih := bitsNat_natBits w (n / 2) (by rw [Nat.pow_succ] at h; omega)
    simp only [natBits, bitsNat, ih]
    by_cases h2 : n % 2 = 1 <;> simp [h2] <;> omega

theorem natBits_bitsNat : ∀ (b : Bits), natBits b.length (bitsNat b) = b
  | [] => rfl
  | x :: xs => by
    have ih := natBits_bitsNat xs
    simp only [List.length_cons, natBits, bitsNat]
    cases x <;> simp
    · exact ih
    · rw [show (1 + 2 * bitsNat xs) / 2 = bitsNat xs by omega]; exact ih

theorem length_intBits (w : Nat) (i : Int) : (intBits w i).length = w := by
  simp [intBits, length_natBits]

theorem bitsInt_intBits (n : Nat) (v : Int) (h1 : -(2 ^ n : Int) ≤ 2 * v) (h2 : 2 * v < (2 ^ n : Int)) :
    bitsInt (intBits n v) = v := by
  have hc : ((2 ^ n : Nat) : Int) = 2 ^ n := Int.natCast_pow 2 n
  -- the natural number whose bits `intBits` writes: `v` itself, or `v + 2^n` for a negative `v`
  obtain ⟨u, hu, hlt, huv⟩ : ∃ u : Nat, intBits n v = natBits n u ∧ u < 2 ^ n ∧
      (u : Int) = if v < 0 then v + 2 ^ n else v :=
    ⟨_, rfl, by split <;> omega, by split <;> omega⟩
  rw [hu, bitsInt, length_natBits, bitsNat_natBits n u hlt]
  split at huv <;> split <;> omega

theorem bitsInt_range (b : Bits) :
    -(2 ^ b.length : Int) ≤ 2 * bitsInt b ∧ 2 * bitsInt b < (2 ^ b.length : Int) := by
  have h := bitsNat_lt b
  have hc : ((2 ^ b.length : Nat) : Int) = 2 ^ b.length := Int.natCast_pow 2 _
  unfold bitsInt
  split <;> omega

theorem intBits_bitsInt (b : Bits) : intBits b.length (bitsInt b) = b := by
  have h := bitsNat_lt b
  have hc : ((2 ^ b.length : Nat) : Int) = 2 ^ b.length := Int.natCast_pow 2 _
  unfold intBits bitsInt
  split
  · rw [if_neg (by omega), Int.toNat_natCast, natBits_bitsNat]
  · rw [if_pos (by omega), Int.sub_add_cancel, Int.toNat_natCast, natBits_bitsNat]

mutual
theorem countBits_eq_specWidth : (T : STy) → countBits T = specWidth T
  | .bit | .bool | .bv _ | .uns _ | .sgn _ | .sfix _ _ | .ufix _ _ => rfl
  | .arr e n | .sarr e n => congrArg (n * ·) (countBits_eq_specWidth e)
  | .enum u | .ser u => countBits_eq_specWidth u
  | .rcd fs => (countFields_eq fs 0).trans (Nat.zero_add _)
theorem countFields_eq : (fs : List STy) → (off : Nat) → countFields fs off = off + specWidths fs
  | [], _ => rfl
  | t :: ts, off => by
    rw [countFields, countFields_eq ts, countBits_eq_specWidth t, specWidths, Nat.add_assoc]
end

theorem concatMsb_reverse (l : List Bits) : concatMsb l.reverse = l.flatten := by
  simp [concatMsb]

mutual
theorem toBits_eq_specBits : (x : SVal) → toBits x = specBits x
  | .bit _ | .bool _ | .bv _ | .uns _ _ | .sgn _ _ | .sfix _ _ | .ufix _ _ | .ser _ => rfl
  | .enum v => toBits_eq_specBits v
  | .arr xs | .sarr xs | .rcd xs => (concatMsb_reverse _).trans (toBitsL_flatten xs)
theorem toBitsL_flatten : (xs : List SVal) → (toBitsL xs).flatten = specBitsL xs
  | [] => rfl
  | x :: xs => by rw [toBitsL, List.flatten_cons, toBits_eq_specBits x, toBitsL_flatten xs, specBitsL]
end

theorem slice_drop (b : Bits) (k lo w : Nat) : slice (b.drop k) lo w = slice b (k + lo) w := by
  simp [slice, List.drop_drop]

theorem chunksMap_eq_range {α : Type} (f : Bits → α) (w : Nat) :
    ∀ (n : Nat) (b : Bits), chunksMap f w n b = (List.range n).map (fun i => f (slice b (w * i) w))
  | 0, b => by simp [chunksMap]
  | n + 1, b => by
    rw [chunksMap, chunksMap_eq_range f w n, List.range_succ_eq_map]
    simp [slice, Nat.mul_succ, Function.comp_def, Nat.add_comm]

mutual
theorem fromBits_eq_specVal : (T : STy) → (b : Bits) → fromBits T b = specVal T b
  | .bit, _ | .bool, _ | .bv _, _ | .uns _, _ | .sgn _, _ | .sfix _ _, _ | .ufix _ _, _ | .ser _, _ => rfl
  | .enum u, b => congrArg SVal.enum (fromBits_eq_specVal u b)
  | .arr e n, b | .sarr e n, b => by
    rw [fromBits, specVal, chunksMap_eq_range, countBits_eq_specWidth]
    congr 2
    funext i
    exact fromBits_eq_specVal e _
  | .rcd fs, b => congrArg SVal.rcd (fromFields_eq fs 0 b)
theorem fromFields_eq : (fs : List STy) → (off : Nat) → (b : Bits) →
    fromFields fs off b = specVals fs (b.drop off)
  | [], _, _ => rfl
  | t :: ts, off, b => by
    rw [fromFields, specVals, fromFields_eq ts, fromBits_eq_specVal t, countBits_eq_specWidth, slice,
      List.drop_drop]
end

mutual
theorem spec_roundtrip : (T : STy) → (x : SVal) → wt T x = true →
    (specBits x).length = specWidth T ∧ specVal T (specBits x) = x
  | T, .bit b, h | T, .bool b, h => by
    cases T <;> first | exact Bool.noConfusion h | exact ⟨rfl, rfl⟩
  | T, .bv bs, h => by
    cases T <;> first | exact Bool.noConfusion h | exact ⟨eq_of_beq h, rfl⟩
  | T, .ser raw, h => by
    cases T <;> first
      | exact Bool.noConfusion h
      | exact ⟨(eq_of_beq h).trans (countBits_eq_specWidth _), rfl⟩
  | T, .uns w v, h | T, .ufix w v, h => by
    cases T <;> first | exact Bool.noConfusion h | skip
    obtain ⟨hw, hv⟩ := Bool.and_eq_true_iff.mp h
    obtain rfl := eq_of_beq hw
    exact ⟨length_natBits w v, congrArg _ (bitsNat_natBits w v (of_decide_eq_true hv))⟩
  | T, .sgn w v, h | T, .sfix w v, h => by
    cases T <;> first | exact Bool.noConfusion h | skip
    obtain ⟨hw, h2⟩ := Bool.and_eq_true_iff.mp h
    obtain ⟨hw, h1⟩ := Bool.and_eq_true_iff.mp hw
    obtain rfl := eq_of_beq hw
    exact ⟨length_intBits w v,
      congrArg _ (bitsInt_intBits w v (of_decide_eq_true h1) (of_decide_eq_true h2))⟩
  | T, .enum v, h => by
    cases T <;> first | exact Bool.noConfusion h | skip
    rename_i u
    have ih := spec_roundtrip u v h
    exact ⟨ih.1, congrArg SVal.enum ih.2⟩
  | T, .arr xs, h | T, .sarr xs, h => by
    cases T <;> first | exact Bool.noConfusion h | skip
    rename_i e n
    obtain ⟨hn, ha⟩ := Bool.and_eq_true_iff.mp h
    obtain rfl := eq_of_beq hn
    have ih := spec_roundtrip_all e xs ha
    exact ⟨ih.1, congrArg _ ih.2⟩
  | T, .rcd xs, h => by
    cases T <;> first | exact Bool.noConfusion h | skip
    rename_i fs
    have ih := spec_roundtrip_fields fs xs h
    exact ⟨ih.1, congrArg SVal.rcd ih.2⟩
theorem spec_roundtrip_all : (e : STy) → (xs : List SVal) → wtAll e xs = true →
    (specBitsL xs).length = xs.length * specWidth e ∧
      chunksMap (specVal e) (specWidth e) xs.length (specBitsL xs) = xs
  | e, [], _ => ⟨by simp [specBitsL], rfl⟩
  | e, x :: xs, h => by
    obtain ⟨hx, hxs⟩ := Bool.and_eq_true_iff.mp h
    obtain ⟨hl, hr⟩ := spec_roundtrip e x hx
    obtain ⟨hls, hrs⟩ := spec_roundtrip_all e xs hxs
    constructor
    · rw [specBitsL, List.length_append, hl, hls, List.length_cons, Nat.succ_mul, Nat.add_comm]
    · rw [specBitsL, List.length_cons, chunksMap, List.take_left' hl, List.drop_left' hl, hr, hrs]
theorem spec_roundtrip_fields : (fs : List STy) → (xs : List SVal) → wtFields fs xs = true →
    (specBitsL xs).length = specWidths fs ∧ specVals fs (specBitsL xs) = xs
  | [], [], _ => ⟨rfl, rfl⟩
  | t :: ts, x :: xs, h => by
    obtain ⟨hx, hxs⟩ := Bool.and_eq_true_iff.mp h
    obtain ⟨hl, hr⟩ := spec_roundtrip t x hx
    obtain ⟨hls, hrs⟩ := spec_roundtrip_fields ts xs hxs
    constructor
    · rw [specBitsL, List.length_append, hl, hls, specWidths]
    · rw [specBitsL, specVals, List.take_left' hl, List.drop_left' hl, hr, hrs]
  | [], _ :: _, h => Bool.noConfusion h
  | _ :: _, [], h => Bool.noConfusion h
end


theorem length_specBits (T : STy) (x : SVal) (h : wt T x = true) : (specBits x).length = specWidth T :=
  (spec_roundtrip T x h).1

theorem specVal_specBits (T : STy) (x : SVal) (h : wt T x = true) : specVal T (specBits x) = x :=
  (spec_roundtrip T x h).2

theorem length_specBitsL_all : (e : STy) → (xs : List SVal) → wtAll e xs = true →
    (specBitsL xs).length = xs.length * specWidth e :=
  fun e xs h => (spec_roundtrip_all e xs h).1

theorem length_specBitsL_fields : (fs : List STy) → (xs : List SVal) → wtFields fs xs = true →
    (specBitsL xs).length = specWidths fs :=
  fun fs xs h => (spec_roundtrip_fields fs xs h).1

theorem specVal_specBitsL_all : (e : STy) → (xs : List SVal) → wtAll e xs = true →
    chunksMap (specVal e) (specWidth e) xs.length (specBitsL xs) = xs :=
  fun e xs h => (spec_roundtrip_all e xs h).2

theorem specVals_specBitsL : (fs : List STy) → (xs : List SVal) → wtFields fs xs = true →
    specVals fs (specBitsL xs) = xs :=
  fun fs xs h => (spec_roundtrip_fields fs xs h).2

theorem bits_len_one (b : Bits) (h : b.length = 1) : [b.getD 0 false] = b := by
  match b, h with
  | [x], _ => rfl

theorem length_chunksMap {α : Type} (f : Bits → α) (w : Nat) : ∀ (n : Nat) (b : Bits), (chunksMap f w n b).length = n
  | 0, _ => rfl
  | n + 1, b => by simp [chunksMap, length_chunksMap f w n]

theorem length_take_drop {b : Bits} {w r : Nat} (h : b.length = w + r) :
    (b.take w).length = w ∧ (b.drop w).length = r := by
  rw [List.length_take, List.length_drop, h]
  omega

theorem chunksMap_decode (e : STy) (f : Bits → SVal) (w : Nat)
    (hf : ∀ c : Bits, c.length = w → specBits (f c) = c ∧ wt e (f c) = true) :
    ∀ (n : Nat) (b : Bits), b.length = n * w →
      specBitsL (chunksMap f w n b) = b ∧ wtAll e (chunksMap f w n b) = true
  | 0, b, h => by
    obtain rfl : b = [] := List.eq_nil_of_length_eq_zero (by omega)
    exact ⟨rfl, rfl⟩
  | n + 1, b, h => by
    obtain ⟨h1, h2⟩ := length_take_drop (show b.length = w + n * w by rw [h, Nat.succ_mul, Nat.add_comm])
    obtain ⟨hb, hw⟩ := hf _ h1
    obtain ⟨hbs, hws⟩ := chunksMap_decode e f w hf n _ h2
    exact ⟨by rw [chunksMap, specBitsL, hb, hbs, List.take_append_drop],
      by rw [chunksMap, wtAll, hw, hws]; rfl⟩

mutual
theorem spec_decode : (T : STy) → (b : Bits) → b.length = specWidth T →
    specBits (specVal T b) = b ∧ wt T (specVal T b) = true
  | .bit, b, h | .bool, b, h => ⟨bits_len_one b h, rfl⟩
  | .bv _, b, h => ⟨rfl, beq_iff_eq.mpr h⟩
  | .ser t, b, h => ⟨rfl, beq_iff_eq.mpr (h.trans (countBits_eq_specWidth t).symm)⟩
  | .uns n, b, h | .ufix n _, b, h => by
    obtain rfl : b.length = n := h
    exact ⟨natBits_bitsNat b, by simp [specVal, wt, bitsNat_lt]⟩
  | .sgn n, b, h | .sfix n _, b, h => by
    obtain rfl : b.length = n := h
    have := bitsInt_range b
    exact ⟨intBits_bitsInt b, by simp [specVal, wt, this.1, this.2]⟩
  | .enum u, b, h => spec_decode u b h
  | .arr e n, b, h | .sarr e n, b, h => by
    obtain ⟨hb, hw⟩ := chunksMap_decode e _ _ (fun c hc => spec_decode e c hc) n b h
    exact ⟨hb, by rw [specVal, wt, length_chunksMap, hw]; simp⟩
  | .rcd fs, b, h => spec_decode_fields fs b h
theorem spec_decode_fields : (fs : List STy) → (b : Bits) → b.length = specWidths fs →
    specBitsL (specVals fs b) = b ∧ wtFields fs (specVals fs b) = true
  | [], b, h => by
    obtain rfl : b = [] := List.eq_nil_of_length_eq_zero h
    exact ⟨rfl, rfl⟩
  | t :: ts, b, h => by
    obtain ⟨h1, h2⟩ := length_take_drop (show b.length = specWidth t + specWidths ts from h)
    obtain ⟨hb, hw⟩ := spec_decode t _ h1
    obtain ⟨hbs, hws⟩ := spec_decode_fields ts _ h2
    exact ⟨by rw [specVals, specBitsL, hb, hbs, List.take_append_drop],
      by rw [specVals, wtFields, hw, hws]; rfl⟩
end


theorem specBits_specVal (T : STy) (b : Bits) (h : b.length = specWidth T) : specBits (specVal T b) = b :=
  (spec_decode T b h).1

theorem wt_specVal (T : STy) (b : Bits) (h : b.length = specWidth T) : wt T (specVal T b) = true :=
  (spec_decode T b h).2

theorem specBitsL_specVals : (fs : List STy) → (b : Bits) → b.length = specWidths fs →
    specBitsL (specVals fs b) = b :=
  fun fs b h => (spec_decode_fields fs b h).1

theorem wtFields_specVals : (fs : List STy) → (b : Bits) → b.length = specWidths fs →
    wtFields fs (specVals fs b) = true :=
  fun fs b h => (spec_decode_fields fs b h).2

theorem wtFields_length : ∀ (fs : List STy) (xs : List SVal), wtFields fs xs = true → xs.length = fs.length
  | [], [], _ => rfl
  | _ :: ts, _ :: xs, h => congrArg Nat.succ (wtFields_length ts xs (Bool.and_eq_true_iff.mp h).2)
  | [], _ :: _, h => Bool.noConfusion h
  | _ :: _, [], h => Bool.noConfusion h

theorem take_specBitsL_cons {x : SVal} {xs : List SVal} {w : Nat} (hl : (specBits x).length = w) :
    (specBitsL (x :: xs)).take w = specBits x := by
  rw [specBitsL]; exact List.take_left' hl

theorem slice_append_right (a l : Bits) (n k w : Nat) (h : a.length = n) :
    slice (a ++ l) (n + k) w = slice l k w := by
  subst h; rw [slice, slice, List.drop_append, List.drop_eq_nil_of_le (by omega), Nat.add_sub_cancel_left, List.nil_append]

theorem slice_append_left (a l : Bits) (w : Nat) (h : a.length = w) : slice (a ++ l) 0 w = a := by
  simp [slice, List.take_left' h]

theorem slice_specBitsL_field : ∀ (fs : List STy) (xs : List SVal), wtFields fs xs = true →
    ∀ (i : Nat) (h1 : i < fs.length) (h2 : i < xs.length),
      slice (specBitsL xs) (fieldOffset fs i) (specWidth fs[i]) = specBits xs[i]
  | [], _, _, i, h1, _ => by simp at h1
  | _ :: _, [], _, i, _, h2 => by simp at h2
  | t :: ts, x :: xs, h, 0, _, _ => by
    have h := Bool.and_eq_true_iff.mp h
    simp [fieldOffset, specWidths, specBitsL, slice_append_left _ _ _ (length_specBits t x h.1)]
  | t :: ts, x :: xs, h, i + 1, h1, h2 => by
    have h := Bool.and_eq_true_iff.mp h
    have ih := slice_specBitsL_field ts xs h.2 i (by simpa using h1) (by simpa using h2)
    simp only [fieldOffset] at ih
    simp only [fieldOffset, List.take_succ_cons, specWidths, specBitsL, List.getElem_cons_succ]
    rw [slice_append_right _ _ _ _ _ (length_specBits t x h.1), ih]

theorem slice_specBitsL_elem (e : STy) : ∀ (xs : List SVal), wtAll e xs = true →
    ∀ (i : Nat) (h2 : i < xs.length),
      slice (specBitsL xs) (i * specWidth e) (specWidth e) = specBits xs[i]
  | [], _, i, h2 => by simp at h2
  | x :: xs, h, 0, _ => by
    have h := Bool.and_eq_true_iff.mp h
    simp [specBitsL, slice_append_left _ _ _ (length_specBits e x h.1)]
  | x :: xs, h, i + 1, h2 => by
    have h := Bool.and_eq_true_iff.mp h
    have ih := slice_specBitsL_elem e xs h.2 i (by simpa using h2)
    simp only [specBitsL, List.getElem_cons_succ]
    rw [show (i + 1) * specWidth e = specWidth e + i * specWidth e by rw [Nat.succ_mul]; omega,
      slice_append_right _ _ _ _ _ (length_specBits e x h.1), ih]

/-- the mirror's offset table (driver request `offsets`) -/
theorem offsetsOf_go_getElem? : ∀ (fs : List STy) (off i : Nat),
    (offsetsOf.go fs off)[i]? = fs[i]?.map (fun t => (off + fieldOffset fs i, countBits t))
  | [], off, i => by simp [offsetsOf.go]
  | t :: ts, off, 0 => by simp [offsetsOf.go, fieldOffset, specWidths]
  | t :: ts, off, i + 1 => by
    simp only [offsetsOf.go, List.getElem?_cons_succ, offsetsOf_go_getElem? ts, fieldOffset,
      List.take_succ_cons, specWidths, countBits_eq_specWidth, Nat.add_assoc]

theorem absLo_cons (off sw : Nat) (rest : List (Nat × Nat)) (lo : Nat) :
    absLo ((off, sw) :: rest) lo = off + absLo rest lo := by
  simp [absLo]; omega

theorem pathOk_absLo : ∀ (p : List (Nat × Nat)) (lo w W : Nat), pathOk p lo w W = true → absLo p lo + w ≤ W
  | [], lo, w, W, h => by simpa [pathOk, absLo] using h
  | (off, sw) :: rest, lo, w, W, h => by
    simp [pathOk] at h
    have := pathOk_absLo rest lo w sw h.2
    rw [absLo_cons]; omega

theorem length_drop_take {b : Bits} {off sw W : Nat} (hb : b.length = W) (h : off + sw ≤ W) :
    ((b.drop off).take sw).length = sw := by
  rw [List.length_take, List.length_drop]; omega

theorem slice_sub (b : Bits) (off sw a w : Nat) (h : a + w ≤ sw) :
    slice ((b.drop off).take sw) a w = slice b (off + a) w := by
  simp only [slice, List.drop_take, List.take_take, List.drop_drop]
  rw [Nat.min_eq_left (by omega)]

theorem readPath_eq_slice : ∀ (p : List (Nat × Nat)) (lo w W : Nat) (b : Bits),
    pathOk p lo w W = true → b.length = W → readPath p lo w b = slice b (absLo p lo) w
  | [], lo, w, W, b, _, _ => by simp [readPath, absLo]
  | (off, sw) :: rest, lo, w, W, b, h, hb => by
    simp [pathOk] at h
    rw [readPath, readPath_eq_slice rest lo w sw _ h.2 (length_drop_take hb h.1), absLo_cons,
      slice_sub _ _ _ _ _ (pathOk_absLo rest lo w sw h.2)]

theorem length_writeSlice (b v : Bits) (lo : Nat) (h : lo + v.length ≤ b.length) :
    (writeSlice b lo v).length = b.length := by
  simp only [writeSlice, List.length_append, List.length_take, List.length_drop]
  omega

theorem getElem?_writeSlice_outside (b v : Bits) (lo i : Nat) (h : lo + v.length ≤ b.length)
    (hi : i < lo ∨ lo + v.length ≤ i) : (writeSlice b lo v)[i]? = b[i]? := by
  have hl : (b.take lo).length = lo := by rw [List.length_take]; omega
  rw [writeSlice, List.append_assoc]
  rcases hi with hi | hi
  · rw [List.getElem?_append_left (by omega), List.getElem?_take, if_pos hi]
  · rw [List.getElem?_append_right (by omega), List.getElem?_append_right (by omega), List.getElem?_drop, hl]
    congr 1
    omega

theorem drop_take_append_drop (c : Bits) {k sw : Nat} (h : k ≤ sw) : (c.take sw).drop k ++ c.drop sw = c.drop k := by
  have : c.drop sw = (c.drop k).drop (sw - k) := by rw [List.drop_drop]; congr 1; omega
  rw [List.drop_take, this, List.take_append_drop]

/-- writing into a sub-vector and writing the sub-vector back is one write at the sum of the offsets -/
theorem writeSlice_sub (b v : Bits) (off sw a : Nat) (h : a + v.length ≤ sw) (hb : off + sw ≤ b.length) :
    writeSlice b off (writeSlice ((b.drop off).take sw) a v) = writeSlice b (off + a) v := by
  have hl := length_drop_take (b := b) rfl hb
  have e1 : b.drop (off + a + v.length) = (b.drop off).drop (a + v.length) := by
    rw [List.drop_drop, Nat.add_assoc]
  have e2 : b.drop (off + sw) = (b.drop off).drop sw := by rw [List.drop_drop]
  rw [writeSlice, length_writeSlice _ _ _ (by omega), hl]
  simp only [writeSlice]
  rw [List.take_take, Nat.min_eq_left (by omega), List.take_add, e1, e2,
    ← drop_take_append_drop (b.drop off) h]
  simp only [List.append_assoc]

theorem writePath_eq_writeSlice : ∀ (p : List (Nat × Nat)) (lo W : Nat) (v b : Bits),
    pathOk p lo v.length W = true → b.length = W → writePath p lo v b = writeSlice b (absLo p lo) v
  | [], lo, W, v, b, _, _ => by simp [writePath, absLo]
  | (off, sw) :: rest, lo, W, v, b, h, hb => by
    simp [pathOk] at h
    rw [writePath, writePath_eq_writeSlice rest lo sw v _ h.2 (length_drop_take hb h.1), absLo_cons,
      writeSlice_sub _ _ _ _ _ (pathOk_absLo rest lo v.length sw h.2) (by omega)]

end CohdlVerif.C17
