import CohdlVerif.Model.C18
/-!
  C18: batching and the tree folds.

  `FoldTree f l r`: r is the value of SOME bracketing of the non-empty list l (order of the leaves kept).
  `binaryFold` / `batchedFold` (any batch size, including the inner default-2 recursion) always return the
  value of such a bracketing - no associativity needed.  Everything else (fold = foldl for associative f,
  population count through widening adders, concat, min/max) is an induction over `FoldTree`.
-/
namespace CohdlVerif.C18

/-- induction along `l ↦ l.drop bs`, the recursion of `batchArgs` -/
theorem drop_induction {motive : List α → Prop} {bs : Nat} (hbs : 1 ≤ bs) (nil : motive [])
    (step : ∀ l, l ≠ [] → motive (l.drop bs) → motive l) (l : List α) : motive l := by
  generalize hn : l.length = n
  induction n using Nat.strongRecOn generalizing l with
  | _ n ih =>
    cases l with
    | nil => exact nil
    | cons a r =>
      apply step _ (List.cons_ne_nil a r)
      apply ih _ _ _ rfl
      simp only [List.length_drop, List.length_cons] at hn ⊢
      omega

theorem batchArgsF_nil (bs fuel : Nat) : batchArgsF bs fuel ([] : List α) = [] := by
  cases fuel <;> rfl

theorem batchArgsF_fuel {bs : Nat} (hbs : 1 ≤ bs) : ∀ (f f' : Nat) (l : List α), l.length ≤ f → l.length ≤ f' →
    batchArgsF bs f l = batchArgsF bs f' l := by
  intro f
  induction f with
  | zero =>
    intro f' l h _
    rw [List.eq_nil_of_length_eq_zero (Nat.le_zero.mp h), batchArgsF_nil, batchArgsF_nil]
  | succ f ih =>
    intro f' l h h'
    cases l with
    | nil => rw [batchArgsF_nil, batchArgsF_nil]
    | cons a r =>
      cases f' with
      | zero => simp at h'
      | succ f' =>
        simp only [List.length_cons] at h h'
        simp only [batchArgsF]
        rw [ih f'] <;> simp only [List.length_drop, List.length_cons] <;> omega

theorem batchArgs_nil (bs : Nat) : batchArgs bs ([] : List α) = [] := rfl

theorem batchArgs_cons {bs : Nat} (hbs : 1 ≤ bs) {l : List α} (hl : l ≠ []) :
    batchArgs bs l = l.take bs :: batchArgs bs (l.drop bs) := by
  cases l with
  | nil => exact absurd rfl hl
  | cons a r =>
    simp only [batchArgs, List.length_cons, batchArgsF]
    rw [batchArgsF_fuel hbs r.length _ _ (by simp only [List.length_drop, List.length_cons]; omega) (Nat.le_refl _)]

theorem batchArgs_flatten {bs : Nat} (hbs : 1 ≤ bs) (l : List α) : (batchArgs bs l).flatten = l := by
  induction l using drop_induction hbs with
  | nil => rfl
  | step l hl ih => rw [batchArgs_cons hbs hl, List.flatten_cons, ih, List.take_append_drop]

theorem batchArgs_mem {bs : Nat} (hbs : 1 ≤ bs) (l : List α) : ∀ c ∈ batchArgs bs l, c ≠ [] ∧ c.length ≤ bs := by
  induction l using drop_induction hbs with
  | nil => intro c hc; cases hc
  | step l hl ih =>
    intro c hc
    rw [batchArgs_cons hbs hl, List.mem_cons] at hc
    rcases hc with rfl | hc
    · have := List.length_pos_iff.mpr hl
      rw [← List.length_pos_iff, List.length_take]
      omega
    · exact ih c hc

theorem batchArgs_length_le {bs : Nat} (hbs : 1 ≤ bs) (l : List α) : (batchArgs bs l).length ≤ l.length := by
  induction l using drop_induction hbs with
  | nil => exact Nat.le_refl 0
  | step l hl ih =>
    have := List.length_pos_iff.mpr hl
    rw [batchArgs_cons hbs hl, List.length_cons]
    rw [List.length_drop] at ih
    omega

theorem batchArgs_ne_nil {bs : Nat} (hbs : 1 ≤ bs) {l : List α} (hl : l ≠ []) : batchArgs bs l ≠ [] := by
  rw [batchArgs_cons hbs hl]
  exact List.cons_ne_nil _ _

inductive FoldTree (f : α → α → α) : List α → α → Prop
  | leaf (a : α) : FoldTree f [a] a
  | node {l₁ l₂ : List α} {r₁ r₂ : α} : FoldTree f l₁ r₁ → FoldTree f l₂ r₂ → FoldTree f (l₁ ++ l₂) (f r₁ r₂)

theorem FoldTree.ne_nil {f : α → α → α} {l : List α} {r : α} (h : FoldTree f l r) : l ≠ [] := by
  induction h with
  | leaf a => simp
  | node h₁ _ ih₁ _ => simp [ih₁]

/-- `binaryFold` continues a bracketing of the prefix -/
theorem binaryFold_tree_aux (f : α → α → α) (rest : List α) :
    ∀ (l₀ : List α) (a : α), FoldTree f l₀ a → ∃ r, binaryFold f (a :: rest) = some r ∧ FoldTree f (l₀ ++ rest) r := by
  induction rest with
  | nil => intro l₀ a h; exact ⟨a, by simp [binaryFold], by simpa using h⟩
  | cons b rest ih =>
    intro l₀ a h
    obtain ⟨r, hr, ht⟩ := ih (l₀ ++ [b]) (f a b) (FoldTree.node h (FoldTree.leaf b))
    refine ⟨r, ?_, by simpa using ht⟩
    rw [binaryFold]; exact hr

theorem binaryFold_tree (f : α → α → α) (l : List α) (hl : l ≠ []) :
    ∃ r, binaryFold f l = some r ∧ FoldTree f l r := by
  cases l with
  | nil => exact absurd rfl hl
  | cons a rest => exact binaryFold_tree_aux f rest [a] a (FoldTree.leaf a)

theorem binaryFoldR_tree (f : α → α → α) (l : List α) (hl : l ≠ []) :
    ∃ r, binaryFoldR f l = some r ∧ FoldTree f l r := by
  induction l with
  | nil => exact absurd rfl hl
  | cons a rest ih =>
    cases rest with
    | nil => exact ⟨a, rfl, FoldTree.leaf a⟩
    | cons b rest =>
      obtain ⟨r, hr, ht⟩ := ih (by simp)
      exact ⟨f a r, by simp [binaryFoldR, hr], FoldTree.node (FoldTree.leaf a) ht⟩

inductive Parts (f : α → α → α) : List (List α) → List α → Prop
  | nil : Parts f [] []
  | cons {c : List α} {r : α} {cs : List (List α)} {rs : List α} :
      FoldTree f c r → Parts f cs rs → Parts f (c :: cs) (r :: rs)

theorem Parts.length_eq {f : α → α → α} {cs : List (List α)} {rs : List α} (h : Parts f cs rs) : cs.length = rs.length := by
  induction h with
  | nil => rfl
  | cons _ _ ih => simp [ih]

theorem Parts.split {f : α → α → α} (l₁ : List α) :
    ∀ (l₂ : List α) (cs : List (List α)), Parts f cs (l₁ ++ l₂) →
      ∃ cs₁ cs₂, cs = cs₁ ++ cs₂ ∧ Parts f cs₁ l₁ ∧ Parts f cs₂ l₂ := by
  induction l₁ with
  | nil => intro l₂ cs h; exact ⟨[], cs, rfl, Parts.nil, h⟩
  | cons a l₁ ih =>
    intro l₂ cs h
    cases h with
    | cons hc hrest =>
      obtain ⟨cs₁, cs₂, rfl, h₁, h₂⟩ := ih l₂ _ hrest
      exact ⟨_ :: cs₁, cs₂, rfl, Parts.cons hc h₁, h₂⟩

theorem FoldTree.flatten {f : α → α → α} {rs : List α} {r : α} (h : FoldTree f rs r) :
    ∀ cs, Parts f cs rs → FoldTree f cs.flatten r := by
  induction h with
  | leaf a =>
    intro cs hp
    cases hp with
    | cons hc hrest => cases hrest; simpa using hc
  | node _ _ ih₁ ih₂ =>
    intro cs hp
    obtain ⟨cs₁, cs₂, rfl, h₁, h₂⟩ := Parts.split _ _ _ hp
    rw [List.flatten_append]
    exact FoldTree.node (ih₁ _ h₁) (ih₂ _ h₂)

theorem mapM_parts (f : α → α → α) (g : List α → Option α) :
    ∀ (cs : List (List α)), (∀ c ∈ cs, ∃ r, g c = some r ∧ FoldTree f c r) →
      ∃ rs, cs.mapM g = some rs ∧ Parts f cs rs := by
  intro cs
  induction cs with
  | nil => intro _; exact ⟨[], rfl, Parts.nil⟩
  | cons c cs ih =>
    intro h
    obtain ⟨r, hr, ht⟩ := h c List.mem_cons_self
    obtain ⟨rs, hrs, hp⟩ := ih (fun c' hc' => h c' (List.mem_cons_of_mem _ hc'))
    exact ⟨r :: rs, by simp [List.mapM_cons, hr, hrs], Parts.cons ht hp⟩

/-- The fuel `l.length + 2` of `batchedFold` covers batch size 1, where the first level does not shorten the
    list; from batch size 2 on every level does, and `l.length + 1` would do. -/
theorem batchedFoldF_tree (f : α → α → α) :
    ∀ (fuel bs : Nat) (l : List α), 1 ≤ bs → l ≠ [] → l.length + 2 ≤ fuel + min bs 2 →
      ∃ r, batchedFoldF f fuel bs l = some r ∧ FoldTree f l r := by
  intro fuel
  induction fuel with
  | zero => intro bs l _ hl h; have := List.length_pos_iff.mpr hl; omega
  | succ fuel ih =>
    intro bs l hbs hl hfuel
    rw [batchedFoldF, if_neg (Nat.ne_of_gt hbs)]
    split
    · exact binaryFold_tree f l hl
    · rename_i hle
      have hinner : ∀ c ∈ batchArgs bs l, ∃ r, batchedFoldF f fuel bs c = some r ∧ FoldTree f c r := by
        intro c hc
        obtain ⟨hne, hcl⟩ := batchArgs_mem hbs l c hc
        exact ih bs c hbs hne (by omega)
      obtain ⟨rs, hrs, hp⟩ := mapM_parts f _ _ hinner
      rw [hrs]
      -- the first batch has `bs` elements, so the list of results is shorter by `bs - 1`
      have hrl := hp.length_eq
      have hlen := batchArgs_length_le hbs (l.drop bs)
      rw [batchArgs_cons hbs hl, List.length_cons] at hrl
      rw [List.length_drop] at hlen
      obtain ⟨r, hr, ht⟩ := ih 2 rs (Nat.le_succ 1) (List.ne_nil_of_length_pos (by omega)) (by omega)
      refine ⟨r, hr, ?_⟩
      have := ht.flatten _ hp
      rwa [batchArgs_flatten hbs] at this

/-- `batched_fold` returns the value of a bracketing of its (non-empty) argument list, for every batch size ≥ 1 -/
theorem batchedFold_tree (f : α → α → α) (bs : Nat) (l : List α) (hbs : 1 ≤ bs) (hl : l ≠ []) :
    ∃ r, batchedFold f bs l = some r ∧ FoldTree f l r :=
  batchedFoldF_tree f _ bs l hbs hl (by omega)

theorem foldl_assoc (f : α → α → α) (hf : ∀ a b c, f (f a b) c = f a (f b c)) (t : List α) :
    ∀ (x b : α), t.foldl f (f x b) = f x (t.foldl f b) := by
  induction t with
  | nil => intro x b; rfl
  | cons c t ih => intro x b; simp only [List.foldl_cons]; rw [hf, ih]

theorem FoldTree.eq_foldl1 {f : α → α → α} (hf : ∀ a b c, f (f a b) c = f a (f b c))
    {l : List α} {r : α} (h : FoldTree f l r) : foldl1 f l = some r := by
  induction h with
  | leaf a => rfl
  | @node l₁ l₂ r₁ r₂ h₁ h₂ ih₁ ih₂ =>
    cases l₁ with
    | nil => exact absurd rfl h₁.ne_nil
    | cons a t₁ =>
      cases l₂ with
      | nil => exact absurd rfl h₂.ne_nil
      | cons b t₂ =>
        simp only [foldl1, Option.some.injEq] at ih₁ ih₂
        simp only [foldl1, List.cons_append, List.foldl_append, List.foldl_cons, Option.some.injEq]
        rw [ih₁, foldl_assoc f hf, ih₂]

theorem batchedFold_eq_foldl1 {f : α → α → α} (hf : ∀ a b c, f (f a b) c = f a (f b c)) {bs : Nat} (hbs : 1 ≤ bs)
    {l : List α} (hl : l ≠ []) : batchedFold f bs l = foldl1 f l := by
  obtain ⟨r, hr, ht⟩ := batchedFold_tree f bs l hbs hl
  rw [hr, ht.eq_foldl1 hf]

end CohdlVerif.C18
