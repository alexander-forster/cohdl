import CohdlVerif.Model.C15

/-! C15: register chains of the shape `a^p (¬a)^m` under `shiftTail` / `setHead`, the invariant `Reach` (four shapes of
  the two chains) and what one step does to each shape. -/
namespace CohdlVerif.C15

open List

theorem shiftTail_replicate (n : Nat) (a : Bool) : shiftTail (replicate n a) = replicate n a := by
  cases n with
  | zero => rfl
  | succ n =>
    rw [replicate_succ, shiftTail, ← replicate_succ, dropLast_replicate]
    rfl

/-- the toggle edge moves one register towards the end of the chain -/
theorem shiftTail_edge (p m : Nat) (a b : Bool) :
    shiftTail (replicate (p + 1) a ++ replicate (m + 1) b) = replicate (p + 2) a ++ replicate m b := by
  rw [replicate_succ, cons_append, shiftTail, ← cons_append, ← replicate_succ, replicate_succ' (n := m), ← append_assoc,
    dropLast_concat]
  rfl

theorem shiftTail_noedge (p : Nat) (a b : Bool) :
    shiftTail (replicate p a ++ replicate 0 b) = replicate p a ++ replicate 0 b := by
  simp [shiftTail_replicate]

theorem hd_rep_append (p : Nat) (a : Bool) (l : List Bool) : hd (replicate (p + 1) a ++ l) = a := rfl

theorem hd_rep (p : Nat) (a : Bool) : hd (replicate (p + 1) a) = a := rfl

theorem lst_rep_edge (p m : Nat) (a b : Bool) : lst (replicate p a ++ replicate (m + 1) b) = b := by
  simp [lst, replicate_succ', ← append_assoc]

theorem lst_rep (p : Nat) (a : Bool) : lst (replicate (p + 1) a) = a := by
  simp [lst, replicate_succ']

theorem setHead_rep (p : Nat) (a v : Bool) : setHead v (replicate (p + 1) a) = v :: replicate p a := rfl

theorem setHead_same (c : List Bool) (h : c ≠ []) : setHead (hd c) c = c := by
  cases c with
  | nil => exact absurd rfl h
  | cons x t => rfl

theorem shiftTail_ne_nil (c : List Bool) (h : c ≠ []) : shiftTail c ≠ [] := by
  cases c with
  | nil => exact absurd rfl h
  | cons x t => exact cons_ne_nil _ _

theorem hd_shiftTail (c : List Bool) : hd (shiftTail c) = hd c := by
  cases c with
  | nil => rfl
  | cons x t => rfl

theorem Flag.step_set_noop (f : Flag) (hne : f.txc ≠ []) (tp tc dc : Bool) (hp : f.pSet = true) :
    f.step tp true tc dc = f.step tp false tc dc := by
  have hv : (!f.rx) = hd f.txc := (Bool.eq_not_of_ne (bne_iff_ne.mp hp)).symm
  have e1 : setHead (!f.rx) f.txc = f.txc := by rw [hv]; exact setHead_same _ hne
  have e2 : setHead (!f.rx) (shiftTail f.txc) = shiftTail f.txc := by
    rw [hv, ← hd_shiftTail]; exact setHead_same _ (shiftTail_ne_nil _ hne)
  cases tp <;> cases tc <;> simp [Flag.step, e1, e2]

/-- while the producer sees the flag set a send changes nothing: the step is that of the consumer alone -/
theorem step_of_pSet (g : Bool) (s : St) (i : In) (hne : s.f.txc ≠ []) (hp : s.f.pSet = true) :
    step g s i = { s with f := s.f.step i.tp false i.tc (takes s i),
                          rxData := if takes s i then s.data else s.rxData,
                          rcvd := if takes s i then s.rcvd ++ [s.data] else s.rcvd } := by
  have hf : s.f.step i.tp (effSend g s i).isSome i.tc (takes s i) = s.f.step i.tp false i.tc (takes s i) := by
    cases (effSend g s i).isSome
    · rfl
    · exact Flag.step_set_noop _ hne _ _ _ hp
  rw [step, hf]
  cases effSend g s i <;> simp only [hp, if_true]

theorem bne_not (a : Bool) : (a != !a) = true := by cases a <;> rfl

/-- the toggle edge is under way (producer sees set, consumer clear): the step only shifts the chains -/
theorem step_shift (g : Bool) (s : St) (i : In) (hne : s.f.txc ≠ []) (hp : s.f.pSet = true) (hc : s.f.cSet = false) :
    step g s i = { s with f := ⟨if i.tc then shiftTail s.f.txc else s.f.txc,
                                if i.tp then shiftTail s.f.rxc else s.f.rxc⟩ } := by
  refine (step_of_pSet g s i hne hp).trans ?_
  simp only [takes, hc, Bool.and_false, Bool.false_eq_true, if_false, Flag.step]

theorem views_travel (a : Bool) (p m R : Nat) :
    let f : Flag := ⟨replicate (p + 1) a ++ replicate (m + 1) (!a), replicate (R + 1) (!a)⟩
    f.pSet = true ∧ f.cSet = false := by
  constructor
  · rw [Flag.pSet, Flag.setTx, Flag.rx, hd_rep_append, lst_rep, bne_not]
  · rw [Flag.cSet, Flag.setRx, Flag.tx, hd_rep, lst_rep_edge, bne_self_eq_false]

theorem views_junction (a : Bool) (p R : Nat) :
    let f : Flag := ⟨replicate (p + 1) a, replicate (R + 1) (!a)⟩
    f.pSet = true ∧ f.cSet = true := by
  constructor
  · rw [Flag.pSet, Flag.setTx, Flag.rx, hd_rep, lst_rep, bne_not]
  · rw [Flag.cSet, Flag.setRx, Flag.tx, hd_rep, lst_rep, bne_not]

theorem views_ack (a : Bool) (K q n : Nat) :
    let f : Flag := ⟨replicate (K + 1) a, replicate (q + 1) a ++ replicate (n + 1) (!a)⟩
    f.pSet = true ∧ f.cSet = false := by
  constructor
  · rw [Flag.pSet, Flag.setTx, Flag.rx, hd_rep, lst_rep_edge, bne_not]
  · rw [Flag.cSet, Flag.setRx, Flag.tx, hd_rep_append, lst_rep, bne_self_eq_false]

theorem views_quiet (a : Bool) (K R : Nat) :
    let f : Flag := ⟨replicate (K + 1) a, replicate (R + 1) a⟩
    f.pSet = false ∧ f.cSet = false := by
  constructor
  · rw [Flag.pSet, Flag.setTx, Flag.rx, hd_rep, lst_rep, bne_self_eq_false]
  · rw [Flag.cSet, Flag.setRx, Flag.tx, hd_rep, lst_rep, bne_self_eq_false]

/-! ## the four shapes of a reachable state and what one step does to them
  txc has `K + 1` registers (`K` = tx_delay), rxc has `R + 1` (`R` = rx_delay); the shapes are written with
  successor patterns so that "at least one register equals the head" is syntactic. -/

section
variable (g a : Bool) (dat rx : Option Nat) (sent : List Nat) (rcvd : List (Option Nat)) (i : In)

/-- pending event, toggle edge still inside txc (consumer does not see it yet) -/
theorem step_travel (p m R : Nat) :
    step g ⟨⟨replicate (p + 1) a ++ replicate (m + 1) (!a), replicate (R + 1) (!a)⟩, dat, rx, sent, rcvd⟩ i =
      ⟨⟨if i.tc then replicate (p + 2) a ++ replicate m (!a) else replicate (p + 1) a ++ replicate (m + 1) (!a),
        replicate (R + 1) (!a)⟩, dat, rx, sent, rcvd⟩ := by
  have hne : replicate (p + 1) a ++ replicate (m + 1) (!a) ≠ [] := cons_ne_nil a _
  obtain ⟨hp, hc⟩ := views_travel a p m R
  refine (step_shift g ⟨⟨replicate (p + 1) a ++ replicate (m + 1) (!a), _⟩, dat, rx, sent, rcvd⟩ i hne hp hc).trans ?_
  simp only [shiftTail_edge, shiftTail_replicate, ite_self]

/-- pending event, toggle edge between `_tx` and `_set_rx`: the consumer sees the flag set -/
theorem step_junction (p R : Nat) :
    step g ⟨⟨replicate (p + 1) a, replicate (R + 1) (!a)⟩, dat, rx, sent, rcvd⟩ i =
      if i.tc && i.willing then ⟨⟨replicate (p + 1) a, a :: replicate R (!a)⟩, dat, dat, sent, rcvd ++ [dat]⟩
      else ⟨⟨replicate (p + 1) a, replicate (R + 1) (!a)⟩, dat, rx, sent, rcvd⟩ := by
  obtain ⟨hp, hc⟩ := views_junction a p R
  have hne : replicate (p + 1) a ≠ [] := cons_ne_nil a _
  refine (step_of_pSet g ⟨⟨replicate (p + 1) a, _⟩, dat, rx, sent, rcvd⟩ i hne hp).trans ?_
  simp only [takes, hc, Bool.and_true, Bool.and_false, Bool.false_eq_true, if_false, Flag.step, shiftTail_replicate,
    ite_self, Flag.tx, lst_rep, setHead_rep]
  cases i.tc <;> cases i.willing <;> rfl

/-- no pending event, the acknowledge (toggle edge inside rxc) is still travelling to the producer -/
theorem step_ack (K q n : Nat) :
    step g ⟨⟨replicate (K + 1) a, replicate (q + 1) a ++ replicate (n + 1) (!a)⟩, dat, rx, sent, rcvd⟩ i =
      ⟨⟨replicate (K + 1) a,
        if i.tp then replicate (q + 2) a ++ replicate n (!a) else replicate (q + 1) a ++ replicate (n + 1) (!a)⟩,
        dat, rx, sent, rcvd⟩ := by
  have hne : replicate (K + 1) a ≠ [] := cons_ne_nil a _
  obtain ⟨hp, hc⟩ := views_ack a K q n
  refine (step_shift g ⟨⟨replicate (K + 1) a, _⟩, dat, rx, sent, rcvd⟩ i hne hp hc).trans ?_
  simp only [shiftTail_edge, shiftTail_replicate, ite_self]

/-- quiescent: every register of both chains holds the same value, the producer sees the flag clear -/
theorem step_quiet (K R : Nat) :
    step g ⟨⟨replicate (K + 1) a, replicate (R + 1) a⟩, dat, rx, sent, rcvd⟩ i =
      match (if i.tp then i.send else none) with
      | some v => ⟨⟨(!a) :: replicate K a, replicate (R + 1) a⟩, some v, rx, sent ++ [v], rcvd⟩
      | none => ⟨⟨replicate (K + 1) a, replicate (R + 1) a⟩, dat, rx, sent, rcvd⟩ := by
  obtain ⟨hp, hc⟩ := views_quiet a K R
  obtain ⟨tp, snd, tc, w⟩ := i
  cases tp <;> cases snd <;>
    simp only [step, effSend, takes, hp, hc, Flag.step, Flag.rx, lst_rep, shiftTail_replicate, ite_self, setHead_rep,
      Bool.and_false, Bool.true_and, Bool.false_eq_true, if_false, if_true, Option.isSome_none,
      Option.isSome_some]

end

/-- the invariant: both delay lines together contain at most one toggle edge, its position decides who
    sees the flag set, and the specification logs differ exactly by the event that is under way.
    `K` = tx_delay, `R` = rx_delay (the chains have K+1 and R+1 registers). -/
inductive Reach (K R : Nat) : St → Prop
  | travel (a : Bool) (p m : Nat) (rx : Option Nat) (pre : List Nat) (d : Nat) (h : p + m + 1 = K) :
      Reach K R ⟨⟨replicate (p + 1) a ++ replicate (m + 1) (!a), replicate (R + 1) (!a)⟩,
        some d, rx, pre ++ [d], pre.map some⟩
  | junction (a : Bool) (rx : Option Nat) (pre : List Nat) (d : Nat) :
      Reach K R ⟨⟨replicate (K + 1) a, replicate (R + 1) (!a)⟩, some d, rx, pre ++ [d], pre.map some⟩
  | ack (a : Bool) (q n : Nat) (dat rx : Option Nat) (pre : List Nat) (h : q + n + 1 = R) :
      Reach K R ⟨⟨replicate (K + 1) a, replicate (q + 1) a ++ replicate (n + 1) (!a)⟩,
        dat, rx, pre, pre.map some⟩
  | quiet (a : Bool) (dat rx : Option Nat) (pre : List Nat) :
      Reach K R ⟨⟨replicate (K + 1) a, replicate (R + 1) a⟩, dat, rx, pre, pre.map some⟩

theorem reach_init (K R : Nat) : Reach K R (St.init K R) := Reach.quiet false none none []

theorem reach_step (K R : Nat) (g : Bool) (s : St) (i : In) (h : Reach K R s) : Reach K R (step g s i) := by
  cases h with
  | travel a p m rx pre d h =>
    rw [step_travel]
    cases i.tc with
    | false => exact Reach.travel a p m rx pre d h
    | true =>
      cases m with
      | zero =>
        have : p + 2 = K + 1 := by omega
        simpa [this] using Reach.junction (K := K) (R := R) a rx pre d
      | succ m => exact Reach.travel a (p + 1) m rx pre d (by omega)
  | junction a rx pre d =>
    rw [step_junction]
    cases i.tc && i.willing with
    | false => exact Reach.junction a rx pre d
    | true =>
      cases R with
      | zero => simpa using Reach.quiet (K := K) (R := 0) a (some d) (some d) (pre ++ [d])
      | succ R =>
        simpa [replicate_succ] using Reach.ack (K := K) (R := R + 1) a 0 R (some d) (some d) (pre ++ [d]) (by omega)
  | ack a q n dat rx pre h =>
    rw [step_ack]
    cases i.tp with
    | false => exact Reach.ack a q n dat rx pre h
    | true =>
      cases n with
      | zero =>
        have : q + 2 = R + 1 := by omega
        simpa [this] using Reach.quiet (K := K) (R := R) a dat rx pre
      | succ n => exact Reach.ack a (q + 1) n dat rx pre (by omega)
  | quiet a dat rx pre =>
    rw [step_quiet]
    cases (if i.tp = true then i.send else none) with
    | none => exact Reach.quiet a dat rx pre
    | some v =>
      cases K with
      | zero => simpa using Reach.junction (K := 0) (R := R) (!a) rx pre v
      | succ K =>
        simpa [replicate_succ] using Reach.travel (K := K + 1) (R := R) (!a) 0 K rx pre v (by omega)

theorem reach_run (K R : Nat) (g : Bool) (ins : List In) :
    ∀ s, Reach K R s → Reach K R (run g s ins) := by
  induction ins with
  | nil => intro s h; exact h
  | cons i ins ih => intro s h; exact ih _ (reach_step K R g s i h)

/-! ## what can be read off a reachable state -/

theorem exactly_once_of_reach (K R : Nat) (s : St) (h : Reach K R s) :
    s.rcvd = (s.sent.take s.rcvd.length).map some ∧
    s.rcvd.length ≤ s.sent.length ∧ s.sent.length ≤ s.rcvd.length + 1 := by
  -- in every shape `rcvd = pre.map some` and `sent` is `pre` or `pre ++ [d]`, so `sent.take pre.length = pre`
  cases h <;> simp

theorem set_noop_of_reach (K R : Nat) (g : Bool) (s : St) (h : Reach K R s) (tp tc w : Bool) (v : Nat)
    (hp : s.f.pSet = true) : step g s ⟨tp, some v, tc, w⟩ = step g s ⟨tp, none, tc, w⟩ := by
  have hne : s.f.txc ≠ [] := by
    cases h <;> exact cons_ne_nil _ _
  exact (step_of_pSet g s ⟨tp, some v, tc, w⟩ hne hp).trans (step_of_pSet g s ⟨tp, none, tc, w⟩ hne hp).symm

theorem clear_of_reach (K R : Nat) (s : St) (h : Reach K R s) (hp : s.f.pSet = false) :
    s.rcvd = s.sent.map some := by
  cases h with
  | travel a p m rx pre d h => exact Bool.noConfusion ((views_travel a p m R).1.symm.trans hp)
  | junction a rx pre d => exact Bool.noConfusion ((views_junction a K R).1.symm.trans hp)
  | ack a q n dat rx pre h => exact Bool.noConfusion ((views_ack a K q n).1.symm.trans hp)
  | quiet a dat rx pre => rfl

/-- the consumer sees the flag set exactly in the `junction` shape -/
theorem junction_of_cSet (K R : Nat) (s : St) (h : Reach K R s) (hc : s.f.cSet = true) :
    ∃ a rx pre d, s = ⟨⟨replicate (K + 1) a, replicate (R + 1) (!a)⟩, some d, rx, pre ++ [d], pre.map some⟩ := by
  cases h with
  | travel a p m rx pre d h => exact Bool.noConfusion ((views_travel a p m R).2.symm.trans hc)
  | junction a rx pre d => exact ⟨a, rx, pre, d, rfl⟩
  | ack a q n dat rx pre h => exact Bool.noConfusion ((views_ack a K q n).2.symm.trans hc)
  | quiet a dat rx pre => exact Bool.noConfusion ((views_quiet a K R).2.symm.trans hc)

theorem filterMap_id_map_some (l : List Nat) : (l.map some).filterMap id = l := by
  induction l with
  | nil => rfl
  | cons x t ih => simp

theorem no_reobs_of_reach (K R : Nat) (s : St) (h : Reach K R s) (hc : s.f.cSet = true) :
    ∃ d, s.data = some d ∧ s.sent = (s.rcvd.filterMap id) ++ [d] := by
  obtain ⟨a, rx, pre, d, rfl⟩ := junction_of_cSet K R s h hc
  exact ⟨d, rfl, by simp⟩

theorem after_take_of_reach (K R : Nat) (g : Bool) (s : St) (h : Reach K R s) (i : In)
    (ht : takes s i = true) :
    (step g s i).f.cSet = false ∧ (step g s i).rcvd = (step g s i).sent.map some ∧
    (step g s i).rxData = s.data := by
  rw [takes, Bool.and_eq_true] at ht
  obtain ⟨a, rx, pre, d, rfl⟩ := junction_of_cSet K R s h ht.2
  have h2 := lst_rep K a
  rw [step_junction]
  simp [ht.1, Flag.cSet, Flag.setRx, Flag.tx, hd, h2]

/-! ## liveness: a willing consumer that keeps ticking takes every accepted event -/

/-- number of consumer activations in a schedule -/
def ticksC (ins : List In) : Nat := (ins.filter (·.tc)).length
/-- the consumer is willing in each of its activations -/
def allWilling (ins : List In) : Prop := ∀ i ∈ ins, i.tc = true → i.willing = true

theorem rcvd_mono_step (g : Bool) (s : St) (i : In) : s.rcvd.length ≤ (step g s i).rcvd.length := by
  simp only [step]; split <;> simp

theorem rcvd_mono_run (g : Bool) (ins : List In) : ∀ s, s.rcvd.length ≤ (run g s ins).rcvd.length := by
  induction ins with
  | nil => intro s; exact Nat.le_refl _
  | cons i ins ih => intro s; exact Nat.le_trans (rcvd_mono_step g s i) (ih _)

theorem ticksC_cons (i : In) (ins : List In) :
    ticksC (i :: ins) = (if i.tc then 1 else 0) + ticksC ins := by
  unfold ticksC; cases h : i.tc <;> simp [List.filter, h]; omega

theorem allWilling_tail {i : In} {ins : List In} (h : allWilling (i :: ins)) : allWilling ins :=
  fun j hj => h j (List.mem_cons_of_mem _ hj)

theorem live_junction (g : Bool) (R : Nat) : ∀ (ins : List In) (a : Bool) (p : Nat) (dat rx : Option Nat)
    (sent : List Nat) (rcvd : List (Option Nat)), allWilling ins → 1 ≤ ticksC ins →
    rcvd.length + 1 ≤
      (run g ⟨⟨replicate (p + 1) a, replicate (R + 1) (!a)⟩, dat, rx, sent, rcvd⟩ ins).rcvd.length := by
  intro ins
  induction ins with
  | nil => intro a p dat rx sent rcvd _ h; simp [ticksC] at h
  | cons i ins ih =>
    intro a p dat rx sent rcvd hw ht
    simp only [run, List.foldl_cons]
    rw [step_junction]
    by_cases htc : i.tc = true
    · have hwi : i.willing = true := hw i List.mem_cons_self htc
      simp only [htc, hwi, Bool.and_self, if_true]
      have := rcvd_mono_run g ins ⟨⟨replicate (p + 1) a, a :: replicate R (!a)⟩, dat, dat, sent, rcvd ++ [dat]⟩
      simpa [run] using this
    · have htc' : i.tc = false := by simpa using htc
      rw [ticksC_cons] at ht
      simp only [htc', Bool.false_and, Bool.false_eq_true, if_false] at ht ⊢
      exact ih a p dat rx sent rcvd (allWilling_tail hw) (by omega)

theorem live_travel (g : Bool) (R : Nat) : ∀ (ins : List In) (a : Bool) (p m : Nat) (dat rx : Option Nat)
    (sent : List Nat) (rcvd : List (Option Nat)), allWilling ins → m + 2 ≤ ticksC ins →
    rcvd.length + 1 ≤
      (run g ⟨⟨replicate (p + 1) a ++ replicate (m + 1) (!a), replicate (R + 1) (!a)⟩, dat, rx, sent, rcvd⟩
        ins).rcvd.length := by
  intro ins
  induction ins with
  | nil => intro a p m dat rx sent rcvd _ h; simp [ticksC] at h
  | cons i ins ih =>
    intro a p m dat rx sent rcvd hw ht
    simp only [run, List.foldl_cons]
    rw [step_travel]
    rw [ticksC_cons] at ht
    by_cases htc : i.tc = true
    · simp only [htc, if_true] at ht ⊢
      cases m with
      | zero =>
        have := live_junction g R ins a (p + 1) dat rx sent rcvd (allWilling_tail hw) (by omega)
        simpa [run] using this
      | succ m => exact ih a (p + 1) m dat rx sent rcvd (allWilling_tail hw) (by omega)
    · have htc' : i.tc = false := by simpa using htc
      simp only [htc', Bool.false_eq_true, if_false] at ht ⊢
      exact ih a p m dat rx sent rcvd (allWilling_tail hw) (by omega)

theorem live_of_reach (K R : Nat) (g : Bool) (s : St) (h : Reach K R s) (ins : List In)
    (hw : allWilling ins) (ht : K + 1 ≤ ticksC ins) : s.sent.length ≤ (run g s ins).rcvd.length := by
  cases h with
  | travel a p m rx pre d h =>
    have := live_travel g R ins a p m (some d) rx (pre ++ [d]) (pre.map some) hw (by omega)
    simpa using this
  | junction a rx pre d =>
    have := live_junction g R ins a K (some d) rx (pre ++ [d]) (pre.map some) hw (by omega)
    simpa using this
  | ack a q n dat rx pre h =>
    have := rcvd_mono_run g ins ⟨⟨replicate (K + 1) a, replicate (q + 1) a ++ replicate (n + 1) (!a)⟩,
      dat, rx, pre, pre.map some⟩
    simpa using this
  | quiet a dat rx pre =>
    have := rcvd_mono_run g ins ⟨⟨replicate (K + 1) a, replicate (R + 1) a⟩, dat, rx, pre, pre.map some⟩
    simpa using this

end CohdlVerif.C15
