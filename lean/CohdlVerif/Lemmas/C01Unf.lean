import CohdlVerif.Lemmas.C01Run

/-! C01 - the symbolic unfolding `unf` against the interpreter `run` at the two places where the unfolding of a
  statement and the unfolding of a suspension (`unfSusp`) are the same expression: a loop head and an `await`. -/
namespace CohdlVerif.C01

variable {σ : Type} (act : Nat → σ → σ) (cond : Nat → σ → Bool)

theorem runS_iteC (c : Option Nat) (t e : STree) (s : σ) :
    runS act cond (iteC c t e) s = if evalC cond c s then runS act cond t s else runS act cond e s := by
  cases c <;> rfl

/-- an `await` whose condition is looked at now: met, the continuation runs (`fr'`: fresh or not); else it parks -/
theorem await_sound (f : Nat)
    (ih : ∀ p st fr t, unf f p st fr = some t → ∀ s : σ, run act cond f p st fr s = some (runS act cond t s))
    (c : Option Nat) (k : Stmt) (st : List Frame) (fr' : Bool) (t : STree)
    (h : (unf f k st fr').map (fun t => iteC c t (.leaf (.atAwait c k st))) = some t) (s : σ) :
    (if evalC cond c s then run act cond f k st fr' s else some (.atAwait c k st, s)) = some (runS act cond t s) := by
  obtain ⟨t', h', rfl⟩ := Option.map_eq_some_iff.mp h
  rw [runS_iteC]
  split
  · exact ih _ _ _ _ h' s
  · rfl

/-- a loop head: `while` reached fresh, `continue`, and the suspension `atHead` all unfold to this -/
theorem atHead_sound (f : Nat)
    (ih : ∀ p st fr t, unf f p st fr = some t → ∀ s : σ, run act cond f p st fr s = some (runS act cond t s))
    (prog : Stmt) (c : Option Nat) (b k : Stmt) (st : List Frame) (t : STree)
    (h : unfSusp f prog (.atHead c b k st) = some t) (s : σ) :
    refStep act cond f prog (.atHead c b k st) s = some (runS act cond t s) := by
  cases c with
  | none =>
    obtain ⟨x, hx, ht⟩ := Option.bind_eq_some_iff.mp h
    cases ht
    exact ih _ _ _ _ hx s
  | some c =>
    obtain ⟨x, hx, h⟩ := Option.bind_eq_some_iff.mp h
    obtain ⟨y, hy, ht⟩ := Option.bind_eq_some_iff.mp h
    cases ht
    show (if cond c s then _ else _) = some (if cond c s then _ else _)
    split
    · exact ih _ _ _ _ hx s
    · exact ih _ _ _ _ hy s

end CohdlVerif.C01
