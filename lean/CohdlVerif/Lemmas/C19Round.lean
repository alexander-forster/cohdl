import CohdlVerif.Lemmas.C19Basic

/-!
  C19: what the signed and the unsigned `resize` share - the rounding increment, the three forms of `quantize`,
  clamping, and the overflow styles on a value that is already in range.
-/

namespace CohdlVerif.C19

theorem bit_pat (w x i : Int) (h1 : 0 ≤ i) (h2 : i < w) : (pat w x).bit i = .ok (x / p2 i % 2 == 1) := by
  unfold BV.bit pat
  dsimp only
  rw [if_pos ⟨h1, h2⟩, emod_ediv_p2 x w i h1 (by omega), p2_pred (w - i) (by omega),
    Int.emod_emod_of_dvd _ (Int.dvd_mul_right 2 _)]

theorem slice0_pat (w x hi : Int) (h1 : 0 ≤ hi) (h2 : hi + 1 ≤ w) : (pat w x).slice0 hi = .ok (pat (hi + 1) x) := by
  unfold BV.slice0 pat
  dsimp only
  rw [if_pos ⟨h1, h2⟩, emod_emod_p2 x w _ (by omega) h2]

/-- the rounding increment when `c` bits are cut: the highest cut bit is set, and the lowest kept bit or any
    lower cut bit is set -/
def roundInc (x c : Int) : Int :=
  if (x / p2 (c - 1) % 2 == 1) && ((x / p2 c % 2 == 1) || (x % p2 (c - 1) != 0)) then 1 else 0

theorem roundInc_01 (x c : Int) : roundInc x c = 0 ∨ roundInc x c = 1 := by
  unfold roundInc
  omega

/-- python's short-circuit evaluation of the rounding condition -/
theorem doRound_bits (b0 b1 low : Bool) :
    (if b0 then if b1 then Except.ok 1 else .ok (if low then 1 else 0) else (.ok 0 : Except Err Int)) =
      .ok (if b0 && (b1 || low) then 1 else 0) := by
  cases b0 <;> cases b1 <;> rfl

theorem doRound_pat (w x c : Int) (hc1 : 1 ≤ c) (hcw : c < w) : doRound (pat w x) c = .ok (roundInc x c) := by
  unfold doRound roundInc
  rw [bit_pat w x (c - 1) (by omega) (by omega), bit_pat w x c (by omega) hcw]
  simp only [bind, Except.bind, pure, Except.pure]
  by_cases h1 : c = 1
  · subst h1
    rw [if_pos rfl, show (1 : Int) - 1 = 0 from rfl, p2_zero, Int.emod_one]
    cases x / 1 % 2 == 1 <;> cases x / p2 1 % 2 == 1 <;> rfl
  · rw [if_neg h1, slice0_pat w x (c - 2) (by omega) (by omega), show c - 2 + 1 = c - 1 by omega]
    exact doRound_bits _ _ _

theorem roundEven_eq (v c : Int) (hc : 1 ≤ c) : roundEven v c = v / p2 c + roundInc v c := by
  have hsplit := emod_split_p2 v c (c - 1) (by omega) (by omega)
  rw [show c - (c - 1) = 1 by omega, p2_one] at hsplit
  have hlow := emod_rangeU v (c - 1)
  unfold inRangeU at hlow
  unfold roundEven roundInc
  simp only [Bool.and_eq_true, Bool.or_eq_true, beq_iff_eq, bne_iff_ne, ne_eq]
  rcases Int.emod_two_eq (v / p2 (c - 1)) with h0 | h0
  · rw [h0, Int.mul_zero, Int.zero_add] at hsplit
    rw [if_neg (by omega), if_neg (by omega), Int.add_zero]
  · rw [h0, Int.mul_one] at hsplit
    split <;> split <;> omega

theorem quantize_ext {r v r' : Int} {rs : Round} (h : r' ≤ r) : quantize r v r' rs = v * p2 (r - r') :=
  if_pos h

theorem quantize_trunc {r v r' : Int} (h : r < r') : quantize r v r' .truncate = v / p2 (r' - r) :=
  if_neg (by omega)

theorem quantize_round {r v r' : Int} (h : r < r') :
    quantize r v r' .round = v / p2 (r' - r) + roundInc v (r' - r) := by
  rw [← roundEven_eq v _ (by omega)]
  exact if_neg (by omega)

theorem quantize_scale (r v m r' : Int) (rs : Round) (h1 : r' ≤ m) (h2 : m ≤ r) :
    quantize m (v * p2 (r - m)) r' rs = quantize r v r' rs := by
  rw [quantize_ext h1, quantize_ext (by omega), Int.mul_assoc, ← p2_add _ _ (by omega) (by omega),
    show r - m + (m - r') = r - r' by omega]

/-- comparing with the saturation thresholds `∓2^t` after the scaling by `2^z` is comparing `v` with `∓2^m` -/
theorem thr_mul (v m z t : Int) (hm : 0 ≤ m) (hz : 0 ≤ z) (ht : t = m + z) :
    (v * p2 z < -(p2 t) ↔ v < -(p2 m)) ∧ (p2 t ≤ v * p2 z ↔ p2 m ≤ v) := by
  subst ht
  rw [p2_add m z hm hz, ← Int.neg_mul]
  exact ⟨Int.mul_lt_mul_right (p2_pos z), Int.mul_le_mul_right (p2_pos z)⟩

theorem thr_div (v m c t : Int) (ht : 0 ≤ t) (hc : 0 ≤ c) (hm : m = t + c) :
    (v / p2 c < -(p2 t) ↔ v < -(p2 m)) ∧ (p2 t ≤ v / p2 c ↔ p2 m ≤ v) := by
  subst hm
  rw [p2_add t c ht hc, ← Int.neg_mul]
  exact ⟨Int.ediv_lt_iff_lt_mul (p2_pos c), Int.le_ediv_iff_mul_le (p2_pos c)⟩

theorem clamp_id (lo hi q : Int) (h1 : lo ≤ q) (h2 : q ≤ hi) : clamp lo hi q = q := by
  unfold clamp
  omega

/-- saturation by flags needs each flag only to imply its bound, and no flag that the default is `x`, in bounds -/
theorem clamp_flags (lo hi x d : Int) (u o : Bool) (hlh : lo ≤ hi) (hu : u → x ≤ lo) (ho : ¬ u → o → hi ≤ x)
    (hd : ¬ u → ¬ o → d = x ∧ lo ≤ x ∧ x ≤ hi) : (if u then lo else if o then hi else d) = clamp lo hi x := by
  unfold clamp
  by_cases h1 : u = true
  · have := hu h1
    rw [if_pos h1]
    omega
  · rw [if_neg h1]
    by_cases h2 : o = true
    · have := ho h1 h2
      rw [if_pos h2]
      omega
    · have := hd h1 h2
      rw [if_neg h2]
      omega

theorem clamp_range (lo hi q : Int) (hlh : lo ≤ hi) : lo ≤ clamp lo hi q ∧ clamp lo hi q ≤ hi := by
  unfold clamp
  omega

theorem overflowS_id {tw q : Int} (os : Ovf) (htw : 1 ≤ tw) (h : inRangeS tw q) : overflowS tw q os = q := by
  cases os with
  | wrap => exact wrapS_id htw h
  | saturate => exact clamp_id _ _ _ h.1 (by unfold hiS; have := h.2; omega)

theorem overflowU_id {tw q : Int} (os : Ovf) (h : inRangeU tw q) : overflowU tw q os = q := by
  cases os with
  | wrap => exact Int.emod_eq_of_lt h.1 h.2
  | saturate => exact clamp_id _ _ _ h.1 (by unfold hiU; have := h.2; omega)

/-! The hypotheses of the branches of `_resize_overlapping` each imply that both formats are nonempty and overlap. -/

theorem fmt_of_ovf {l r l' r' : Int} (hl : l' < l) (hr : r' ≤ r) (hov : r ≤ l') :
    r ≤ l ∧ r' ≤ l' ∧ r' ≤ l ∧ r ≤ l' := by
  omega

theorem fmt_of_cut {l r l' r' : Int} (hl : l ≤ l') (hr : r < r') (ht : r' ≤ l) :
    r ≤ l ∧ r' ≤ l' ∧ r' ≤ l ∧ r ≤ l' := by
  omega

theorem fmt_of_ovf_cut {l r l' r' : Int} (hl : l' < l) (hr : r < r') (ht : r' ≤ l') :
    r ≤ l ∧ r' ≤ l' ∧ r' ≤ l ∧ r ≤ l' := by
  omega

end CohdlVerif.C19
