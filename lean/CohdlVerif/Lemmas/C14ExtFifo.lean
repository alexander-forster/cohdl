import CohdlVerif.Model.C14ExtFifo
import CohdlVerif.Lemmas.FifoLemmas

/-! C14 extension - helper lemmas: the delayed Fifo refines the queue.
  Proof idea: ghost (unwrapped) counters `SW BW W SR BR RD` for the six index registers
  (`set_wr buf_wr wr set_rd buf_rd rd`): every register holds its counter mod N, and
  `RD ≤ BR ≤ SR ≤ W ≤ BW ≤ SW ≤ RD + N - 1` is preserved by every interleaving (each copy only moves a
  counter up to a counter that is ahead of it). -/
namespace CohdlVerif.C14

structure Ghost where
  SW : Nat
  BW : Nat
  W : Nat
  SR : Nat
  BR : Nat
  RD : Nat

def b2n (b : Bool) : Nat := if b then 1 else 0

def Ghost.step (g : Ghost) (push pop psync csync : Bool) : Ghost :=
  ⟨g.SW + b2n push, if psync then g.SW else g.BW, if csync then g.BW else g.W,
   g.SR + b2n pop, if csync then g.SR else g.BR, if psync then g.BR else g.RD⟩

structure DRel (N : Nat) (s : DFifo) (a : Queue) (g : Ghost) : Prop where
  o1 : g.RD ≤ g.BR
  o2 : g.BR ≤ g.SR
  o3 : g.SR ≤ g.W
  o4 : g.W ≤ g.BW
  o5 : g.BW ≤ g.SW
  o6 : g.SW + 1 ≤ g.RD + N
  i1 : s.setWr = g.SW % N
  i2 : s.bufWr = g.BW % N
  i3 : s.wr = g.W % N
  i4 : s.setRd = g.SR % N
  i5 : s.bufRd = g.BR % N
  i6 : s.rd = g.RD % N
  len : s.mem.length = N
  qlen : a.q.length + g.SR = g.SW
  elems : ∀ i, i < a.q.length → s.mem[(g.SR + i) % N]? = some a.q[i]?
  out : s.dout = a.out

/-- the abstract operation that a step executes -/
def DFifo.opOf (N : Nat) (s : DFifo) (i : DIn) : FOp :=
  match s.effPush N i, s.effPop i with
  | none, false => .idle
  | some v, false => .push v
  | none, true => .pop
  | some v, true => .both v

theorem drel_init (N txd rxd : Nat) (hN : 2 ≤ N) :
    DRel N (DFifo.init N txd rxd) ⟨[], none⟩ ⟨0, 0, 0, 0, 0, 0⟩ := by
  refine ⟨by simp, by simp, by simp, by simp, by simp, by simp; omega, ?_, ?_, ?_, ?_, ?_, ?_, by simp [DFifo.init],
    by simp, by intro i hi; simp at hi, rfl⟩ <;> simp [DFifo.init]

variable {N : Nat} {s : DFifo} {a : Queue} {g : Ghost}

theorem DRel.cap (h : DRel N s a g) : a.q.length < N := by
  have := h.o1; have := h.o2; have := h.o6; have := h.qlen; omega

theorem DRel.front (h : DRel N s a g) (hq : a.q ≠ []) : s.front = a.q.head? := by
  rw [DFifo.front, h.i4]
  exact Window.head h.elems hq

/-- the sender compares `SW + 1` and `RD` modulo `N`, and `RD` trails the true read counter -/
theorem DRel.room (h : DRel N s a g) (hN : 2 ≤ N) (hf : s.fullS N = false) :
    a.q.length + 1 < N ∧ g.SW + 2 ≤ g.RD + N := by
  have hne : g.SW + 1 ≠ g.RD + N := by
    intro e
    rw [DFifo.fullS, h.i1, h.i6, fifoNext_mod N g.SW hN, e, Nat.add_mod_right, beq_self_eq_true] at hf
    exact Bool.noConfusion hf
  have := h.o1; have := h.o2; have := h.o6; have := h.qlen
  exact ⟨by omega, by omega⟩

theorem DRel.avail (h : DRel N s a g) (he : s.emptyR = false) : a.q ≠ [] ∧ g.SR < g.W := by
  have hne : g.W ≠ g.SR := by
    intro e
    rw [DFifo.emptyR, h.i3, h.i4, e, beq_self_eq_true] at he
    exact Bool.noConfusion he
  have := h.o3; have := h.o4; have := h.o5; have := h.qlen
  have hpos : 0 < a.q.length := by omega
  exact ⟨List.length_pos_iff.mp hpos, by omega⟩

theorem DFifo.fullS_of_effPush {i : DIn} (hp : (s.effPush N i).isSome = true) : s.fullS N = false := by
  unfold DFifo.effPush at hp
  cases hf : s.fullS N
  · rfl
  · simp [hf] at hp

theorem DFifo.emptyR_of_effPop {i : DIn} (hp : s.effPop i = true) : s.emptyR = false := by
  unfold DFifo.effPop at hp
  cases he : s.emptyR
  · rfl
  · simp [he] at hp

/-- the order of the ghost counters -/
structure Ghost.Chain (N : Nat) (g : Ghost) : Prop where
  o1 : g.RD ≤ g.BR
  o2 : g.BR ≤ g.SR
  o3 : g.SR ≤ g.W
  o4 : g.W ≤ g.BW
  o5 : g.BW ≤ g.SW
  o6 : g.SW + 1 ≤ g.RD + N

theorem Ghost.Chain.step (h : g.Chain N) (push pop ps cs : Bool)
    (hpu : push = true → g.SW + 2 ≤ g.RD + N) (hpo : pop = true → g.SR < g.W) :
    (g.step push pop ps cs).Chain N := by
  obtain ⟨o1, o2, o3, o4, o5, o6⟩ := h
  have hp : g.SW + b2n push + 1 ≤ g.RD + N := by
    cases push
    · exact o6
    · exact hpu rfl
  have hq : g.SR + b2n pop ≤ g.W := by
    cases pop
    · exact o3
    · exact hpo rfl
  have hx := Nat.le_add_right g.SR (b2n pop)
  have hy := Nat.le_add_right g.SW (b2n push)
  have hp' := Nat.le_trans hp (Nat.add_le_add_right o1 N)
  -- every counter ends between its old value and the old value of the counter ahead of it
  cases ps <;> cases cs
  · exact ⟨o1, Nat.le_trans o2 hx, hq, o4, Nat.le_trans o5 hy, hp⟩
  · exact ⟨Nat.le_trans o1 o2, hx, Nat.le_trans hq o4, Nat.le_refl _, Nat.le_trans o5 hy, hp⟩
  · exact ⟨Nat.le_refl _, Nat.le_trans o2 hx, hq, Nat.le_trans o4 o5, hy, hp'⟩
  · exact ⟨o2, hx, Nat.le_trans hq o4, o5, hy, hp'⟩

/-- every index register holds its counter modulo `N` -/
structure Counters (N : Nat) (s : DFifo) (g : Ghost) : Prop where
  i1 : s.setWr = g.SW % N
  i2 : s.bufWr = g.BW % N
  i3 : s.wr = g.W % N
  i4 : s.setRd = g.SR % N
  i5 : s.bufRd = g.BR % N
  i6 : s.rd = g.RD % N

theorem ite_mod {x y X Y : Nat} (c : Bool) (hx : x = X % N) (hy : y = Y % N) :
    (if c then x else y) = (if c then X else Y) % N := by
  cases c
  · exact hy
  · exact hx

theorem Counters.step (c : Counters N s g) (hN : 2 ≤ N) (i : DIn) :
    Counters N (s.step N i)
      (g.step (s.effPush N i).isSome (s.effPop i) (i.tp && !s.flag.pSet) (i.tc && s.flag.cSet)) := by
  refine ⟨?_, ite_mod _ c.i1 c.i2, ite_mod _ c.i2 c.i3, ?_, ite_mod _ c.i4 c.i5, ite_mod _ c.i5 c.i6⟩
  · show (match s.effPush N i with | some _ => fifoNext N s.setWr | none => s.setWr) = _
    cases s.effPush N i
    · exact c.i1
    · exact c.i1 ▸ fifoNext_mod N g.SW hN
  · show (if s.effPop i then fifoNext N s.setRd else s.setRd) = _
    cases s.effPop i
    · exact c.i4
    · exact c.i4 ▸ fifoNext_mod N g.SR hN

theorem drel_step (hN : 2 ≤ N) (h : DRel N s a g) (i : DIn) :
    DRel N (s.step N i) (a.step (s.opOf N i))
      (g.step (s.effPush N i).isSome (s.effPop i) (i.tp && !s.flag.pSet) (i.tc && s.flag.cSet)) := by
  have hne (e : s.effPop i = true) := h.avail (DFifo.emptyR_of_effPop e)
  have hch := Ghost.Chain.step (N := N) { h with } (s.effPush N i).isSome (s.effPop i) (i.tp && !s.flag.pSet)
    (i.tc && s.flag.cSet) (fun e => (h.room hN (DFifo.fullS_of_effPush e)).2) (fun e => (hne e).2)
  have hc := Counters.step { h with } hN i
  have hw : Window N s.mem g.SR a.q := h.elems
  have hqlen := h.qlen
  have hset (v : Nat) : (s.mem.set s.setWr (some v)).length = N := List.length_set.trans h.len
  have hpush (v : Nat) : Window N (s.mem.set s.setWr (some v)) g.SR (a.q ++ [v]) := by
    rw [h.i1, ← hqlen, Nat.add_comm]
    exact hw.push h.len h.cap v
  simp only [DFifo.step, DFifo.opOf] at hc ⊢
  generalize s.effPush N i = pu at hne hch hc ⊢
  generalize s.effPop i = po at hne hch hc ⊢
  cases pu with
  | none =>
    cases po with
    | false => exact { hch, hc with len := h.len, qlen := hqlen, elems := hw, out := h.out }
    | true =>
      have hq := (hne rfl).1
      have hpos := List.length_pos_iff.mpr hq
      refine { hch, hc with len := h.len, qlen := ?_, elems := hw.pop, out := h.front hq }
      show a.q.tail.length + (g.SR + 1) = g.SW
      rw [List.length_tail]
      omega
  | some v =>
    cases po with
    | false =>
      refine { hch, hc with len := hset v, qlen := ?_, elems := hpush v, out := h.out }
      show (a.q ++ [v]).length + g.SR = g.SW + 1
      rw [List.length_append, List.length_singleton]
      omega
    | true =>
      have hq := (hne rfl).1
      have hpos := List.length_pos_iff.mpr hq
      have hboth : Window N (s.mem.set s.setWr (some v)) (g.SR + 1) (a.q.tail ++ [v]) :=
        List.tail_append_of_ne_nil hq ▸ (hpush v).pop
      refine { hch, hc with len := hset v, qlen := ?_, elems := hboth, out := h.front hq }
      show (a.q.tail ++ [v]).length + (g.SR + 1) = g.SW + 1
      rw [List.length_append, List.length_tail, List.length_singleton]
      omega

/-- the abstract queue driven by the operations the delayed Fifo really executes -/
def DFifo.runQ (N : Nat) : DFifo → Queue → List DIn → Queue
  | _, a, [] => a
  | s, a, i :: ins => DFifo.runQ N (s.step N i) (a.step (s.opOf N i)) ins

/-- every executed operation respects the preconditions of the abstract queue: no push to a queue holding
    N-1 elements (overflow), no pop from an empty queue (underflow) -/
def DFifo.legalRun (N : Nat) : DFifo → Queue → List DIn → Prop
  | _, _, [] => True
  | s, a, i :: ins => a.legal N (s.opOf N i) = true ∧ DFifo.legalRun N (s.step N i) (a.step (s.opOf N i)) ins

theorem drel_legal (hN : 2 ≤ N) (h : DRel N s a g) (i : DIn) : a.legal N (s.opOf N i) = true := by
  have hroom (e : (s.effPush N i).isSome = true) := (h.room hN (DFifo.fullS_of_effPush e)).1
  have hne (e : s.effPop i = true) := (h.avail (DFifo.emptyR_of_effPop e)).1
  unfold DFifo.opOf
  cases hpu : s.effPush N i <;> cases hpo : s.effPop i <;>
    simp [Queue.legal, hpu, hpo] at hroom hne ⊢ <;> simp [*]

theorem drel_run (hN : 2 ≤ N) (ins : List DIn) :
    ∀ (s : DFifo) (a : Queue) (g : Ghost), DRel N s a g →
      (∃ g', DRel N (DFifo.run N s ins) (DFifo.runQ N s a ins) g') ∧ DFifo.legalRun N s a ins := by
  induction ins with
  | nil => intro s a g h; exact ⟨⟨g, h⟩, trivial⟩
  | cons i ins ih =>
    intro s a g h
    obtain ⟨hr, hl⟩ := ih _ _ _ (drel_step hN h i)
    exact ⟨hr, drel_legal hN h i, hl⟩

end CohdlVerif.C14
