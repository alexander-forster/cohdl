import CohdlVerif.Lemmas.C01Step
import CohdlVerif.Lemmas.C01Heap

/-! C01 - the exported code: transitions dropped for a single-state machine (`dropT`), targets of transitions (`tgts`),
  and what `finish` returns. -/
namespace CohdlVerif.C01

variable {σ : Type} (act : Nat → σ → σ) (cond : Nat → σ → Bool)

/-- remove all transitions -/
def dropT : Code → Code
  | .nil => .nil
  | .act a k => .act a (dropT k)
  | .trans _ k => dropT k
  | .ite c t e k => .ite c (dropT t) (dropT e) (dropT k)

/-- all transition targets -/
def tgts : Code → List Nat
  | .nil => []
  | .act _ k => tgts k
  | .trans t k => t :: tgts k
  | .ite _ t e k => tgts t ++ tgts e ++ tgts k

theorem tgts_frontCode (fr : List Nat) (k : Code) : tgts (frontCode true fr k) = fr ++ tgts k := by
  induction fr with
  | nil => rfl
  | cons t r ih => simp [frontCode, tgts, ih]

theorem dropT_frontCode (fr : List Nat) (k : Code) : dropT (frontCode true fr k) = dropT k := by
  induction fr with
  | nil => rfl
  | cons t r ih => simp [frontCode, dropT, ih]

theorem frontCode_false (fr : List Nat) (k : Code) : frontCode false fr k = k := by
  induction fr with
  | nil => rfl
  | cons t r ih => simp [frontCode, ih]

/-- targets of exported code come from front lists -/
def TgtOk (H : Nat → Blk) (d : Nat → Code → Option Code) : Prop :=
  ∀ b k c, d b k = some c → ∀ t ∈ tgts c, t ∈ tgts k ∨ ∃ b', t ∈ (H b').front

theorem flatItems_tgts (H : Nat → Blk) (d : Nat → Code → Option Code) (hd : TgtOk H d) (items : List Item) :
    ∀ k c, flatItems d items k = some c → ∀ t ∈ tgts c, t ∈ tgts k ∨ ∃ b', t ∈ (H b').front := by
  induction items with
  | nil => intro k c h t ht; simp [flatItems] at h; subst h; exact Or.inl ht
  | cons x xs ih =>
    intro k c h t ht
    cases x with
    | act a =>
      simp only [flatItems, Option.map_eq_some_iff] at h
      obtain ⟨c', h', rfl⟩ := h
      exact ih _ _ h' t (by simpa [tgts] using ht)
    | nop => simp only [flatItems] at h; exact ih _ _ h t ht
    | ite cc tb eb =>
      simp only [flatItems] at h
      split at h
      · rename_i ct ce cr h1 h2 h3
        simp only [Option.some.injEq] at h; subst h
        simp only [tgts, List.mem_append] at ht
        rcases ht with (ht | ht) | ht
        · rcases hd _ _ _ h1 t ht with h | h
          · simp [tgts] at h
          · exact Or.inr h
        · rcases hd _ _ _ h2 t ht with h | h
          · simp [tgts] at h
          · exact Or.inr h
        · exact ih _ _ h3 t ht
      · simp at h
    | sub b =>
      simp only [flatItems, Option.bind_eq_some_iff] at h
      obtain ⟨cr, hr, hb⟩ := h
      rcases hd _ _ _ hb t ht with h | h
      · exact ih _ _ hr t h
      · exact Or.inr h

theorem flatB_tgts (H : Nat → Blk) : ∀ f, TgtOk H (flatB true H f) := by
  intro f
  induction f with
  | zero => intro b k c h; simp [flatB] at h
  | succ f ih =>
    intro b k c h t ht
    simp only [flatB, Option.map_eq_some_iff] at h
    obtain ⟨ci, hci, rfl⟩ := h
    rw [tgts_frontCode, List.mem_append] at ht
    rcases ht with ht | ht
    · exact Or.inr ⟨b, ht⟩
    · exact flatItems_tgts H _ ih _ _ _ hci t ht

theorem flatB_dropT (H H' : Nat → Blk) (hH : ∀ x, (H' x).items = (H x).items) : ∀ f b k c,
    flatB true H f b k = some c → flatB false H' f b (dropT k) = some (dropT c) := by
  intro f b k c h
  obtain ⟨_, hc', rfl⟩ := flatB_rel (R := fun c c' => c' = dropT c) rfl (fun _ _ _ h => h ▸ rfl)
    (fun _ _ _ _ _ _ _ ht he hr => ht ▸ he ▸ hr ▸ rfl) hH
    (fun _ _ _ h => by rw [h, frontCode_false, dropT_frontCode]) f b k _ c rfl h
  exact hc'

theorem exec_dropT (c : Code) : ∀ (s : σ) (p p' : Option Nat),
    exec act cond (dropT c) s p = ((exec act cond c s p').1, p) := by
  induction c with
  | nil => intro s p p'; rfl
  | act a k ih => intro s p p'; simp only [dropT, exec]; exact ih _ _ _
  | trans t k ih => intro s p p'; simp only [dropT, exec]; exact ih _ _ _
  | ite c t e k iht ihe ihk =>
    intro s p p'
    simp only [dropT, exec]
    cases cond c s
    · simp only [Bool.false_eq_true, if_false]
      rw [ihe s p p', ihk _ p (exec act cond e s p').2]
    · simp only [if_true]
      rw [iht s p p', ihk _ p (exec act cond t s p').2]

theorem exec_tgts (c : Code) : ∀ (s : σ) (p : Option Nat) (t : Nat),
    (exec act cond c s p).2 = some t → p = some t ∨ t ∈ tgts c := by
  induction c with
  | nil => intro s p t h; exact Or.inl h
  | act a k ih => intro s p t h; simp only [exec] at h; simpa [tgts] using ih _ _ _ h
  | trans t' k ih =>
    intro s p t h
    simp only [exec] at h
    rcases ih _ _ _ h with h1 | h1
    · right; simp only [Option.some.injEq] at h1; simp [tgts, h1]
    · right; simp [tgts, h1]
  | ite c t' e k iht ihe ihk =>
    intro s p t h
    simp only [exec] at h
    rcases ihk _ _ _ h with h1 | h1
    · cases hc : cond c s
      · simp only [hc, Bool.false_eq_true, if_false] at h1
        rcases ihe _ _ _ h1 with h2 | h2
        · exact Or.inl h2
        · right; simp [tgts, h2]
      · simp only [hc, if_true] at h1
        rcases iht _ _ _ h1 with h2 | h2
        · exact Or.inl h2
        · right; simp [tgts, h2]
    · right; simp [tgts, h1]

theorem mapM_some {α β : Type} (f : α → Option β) : ∀ (l : List α) (r : List β), l.mapM f = some r →
    ∀ i : Nat, r[i]? = l[i]?.bind f := by
  intro l
  induction l with
  | nil => intro r h i; simp at h; subst h; rfl
  | cons a as ih =>
    intro r h i
    simp only [List.mapM_cons, Option.bind_eq_bind, Option.pure_def, Option.bind_eq_some_iff, Option.some.injEq] at h
    obtain ⟨b, hb, bs, hbs, rfl⟩ := h
    cases i with
    | zero => simpa using hb.symm
    | succ j => simpa using ih bs hbs j

theorem addfrontAll_items (t x : Nat) : ∀ (bs : List Nat) (s : CSt),
    ((s.addfrontAll bs t).heap x).items = (s.heap x).items := by
  intro bs
  induction bs with
  | nil => intro s; rfl
  | cons b bs ih =>
    intro s
    simp only [CSt.addfrontAll, List.foldl_cons] at ih ⊢
    rw [ih]
    by_cases h : x = b <;> simp [CSt.addfront, h]

theorem TOK.init : TOK CSt.init := ⟨by simp [CSt.init], by simp [CSt.init]⟩

/-- an accepted final state: all blocks and all states can be exported, with transitions and the jump back to state 0
    if there are several states, without transitions if there is one -/
theorem finish_some (O : List Nat) (s : CSt) (sm : SM) (h : finish O s = some sm) :
    ∃ codes, sm = ⟨codes⟩ ∧
      ((∀ b, b < s.next → (flatB true (s.addfrontAll O 0).heap s.next b .nil).isSome) ∧
          s.states.mapM (fun b => flatB true (s.addfrontAll O 0).heap s.next b .nil) = some codes ∨
        s.states.length = 1 ∧ (∀ b, b < s.next → (flatB false s.heap s.next b .nil).isSome) ∧
          s.states.mapM (fun b => flatB false s.heap s.next b .nil) = some codes) := by
  unfold finish at h
  cases hk : (s.states.length != 1) with
  | false =>
    simp only [hk, Bool.false_eq_true, if_false] at h
    split at h
    · rename_i hall
      obtain ⟨codes, hc, rfl⟩ := Option.map_eq_some_iff.mp h
      exact ⟨codes, rfl, Or.inr ⟨by simpa using hk, fun b hb => List.all_eq_true.mp hall b (List.mem_range.mpr hb), hc⟩⟩
    · cases h
  | true =>
    simp only [hk, if_true, CSt.addfrontAll_next, CSt.addfrontAll_states] at h
    split at h
    · rename_i hall
      obtain ⟨codes, hc, rfl⟩ := Option.map_eq_some_iff.mp h
      exact ⟨codes, rfl, Or.inl ⟨fun b hb => List.all_eq_true.mp hall b (List.mem_range.mpr hb), hc⟩⟩
    · cases h

theorem flatB_empty (k : Bool) (H : Nat → Blk) (N b : Nat) (hN : 0 < N) (h : H b = {}) :
    flatB k H N b .nil = some .nil := by
  cases N with
  | zero => omega
  | succ n => simp [flatB, h, flatItems, frontCode]

end CohdlVerif.C01
