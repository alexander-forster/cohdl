import CohdlVerif.Model.C06

/-! Helper lemmas for C06 (naming mechanism). -/
namespace CohdlVerif.C06

theorem digit_small : ∀ k, k < 10 →
    (Char.ofNat (48 + k)).toNat - 48 = k ∧ isDigit (Char.ofNat (48 + k)) = true := by decide +kernel

theorem val_digitChar (d : Nat) : (digitChar d).toNat - 48 = d % 10 :=
  (digit_small (d % 10) (Nat.mod_lt _ (by decide))).1

theorem isDigit_digitChar (d : Nat) : isDigit (digitChar d) = true :=
  (digit_small (d % 10) (Nat.mod_lt _ (by decide))).2

theorem digitsF_isDigit : ∀ f n, ∀ c ∈ digitsF f n, isDigit c = true := by
  intro f
  induction f with
  | zero => intro n c hc; exact List.mem_singleton.mp hc ▸ isDigit_digitChar n
  | succ f ih =>
      intro n c hc
      rw [digitsF] at hc
      split at hc
      · exact List.mem_singleton.mp hc ▸ isDigit_digitChar n
      · exact (List.mem_append.mp hc).elim (ih _ c) fun hc => List.mem_singleton.mp hc ▸ isDigit_digitChar n

/-- digits are not upper-case letters -/
theorem lowerChar_of_isDigit {c : Char} (h : isDigit c = true) : lowerChar c = c := by
  simp only [isDigit, Bool.and_eq_true, decide_eq_true_eq] at h
  exact if_neg (by simp only [isUpper, Bool.and_eq_true, decide_eq_true_eq]; omega)

theorem lower_digits (n : Nat) : lower (digits n) = digits n :=
  (List.map_congr_left fun c hc => lowerChar_of_isDigit (digitsF_isDigit n n c hc)).trans (List.map_id _)

theorem ofDigits_append (a : List Char) (c : Char) :
    ofDigits (a ++ [c]) = ofDigits a * 10 + (c.toNat - 48) := by
  simp only [ofDigits, List.foldl_append, List.foldl_cons, List.foldl_nil]

theorem ofDigits_digitsF : ∀ f n, n ≤ f → ofDigits (digitsF f n) = n := by
  intro f
  induction f with
  | zero =>
      intro n h
      obtain rfl := Nat.le_zero.mp h
      decide +kernel
  | succ f ih =>
      intro n h
      rw [digitsF]
      split
      · rename_i h10
        exact (ofDigits_append [] _).trans (by rw [val_digitChar, Nat.mod_eq_of_lt h10]; exact Nat.zero_add n)
      · rw [ofDigits_append, ih (n / 10) (by omega), val_digitChar]
        exact Nat.div_add_mod' n 10

theorem ofDigits_digits (n : Nat) : ofDigits (digits n) = n := ofDigits_digitsF n n (Nat.le_refl _)

theorem digits_inj {a b : Nat} (h : digits a = digits b) : a = b :=
  (ofDigits_digits a).symm.trans ((congrArg ofDigits h).trans (ofDigits_digits b))

theorem lower_cand (base : Name) (n : Nat) : lower (cand base n) = lower base ++ digits n :=
  List.map_append.trans (congrArg _ (lower_digits n))

theorem cand_lower_inj {base : Name} {a b : Nat} (h : lower (cand base a) = lower (cand base b)) : a = b := by
  rw [lower_cand, lower_cand] at h
  exact digits_inj (List.append_cancel_left h)

theorem free_iff {used : List Name} {base : Name} {n : Nat} :
    free used base n = true ↔ lower (cand base n) ∉ used := by
  simp [free]

/-- the doubling loop ends on a free candidate: `S` collects the used names among the candidates not yet passed
    (distinct suffixes give distinct names), every failed test removes one element of `S` -/
theorem double_free_aux (used : List Name) (base : Name) :
    ∀ (f : Nat) (S : List Name) (cnt : Nat), 0 < cnt → S.length ≤ f →
      (∀ n, cnt ≤ n → lower (cand base n) ∈ used → lower (cand base n) ∈ S) →
      free used base (double used base f cnt) = true := by
  intro f
  induction f with
  | zero =>
      intro S cnt _ hS hk
      obtain rfl : S = [] := List.eq_nil_of_length_eq_zero (Nat.le_zero.mp hS)
      exact free_iff.mpr fun hin => nomatch hk cnt (Nat.le_refl _) hin
  | succ f ih =>
      intro S cnt hc hS hk
      rw [double]
      split
      · assumption
      · rename_i hfree
        have hin : lower (cand base cnt) ∈ used := Decidable.not_not.mp fun h => hfree (free_iff.mpr h)
        have hlen : (S.filter (· != lower (cand base cnt))).length < S.length :=
          List.length_filter_lt_length_iff_exists.mpr ⟨_, hk cnt (Nat.le_refl _) hin, by simp⟩
        refine ih _ (2 * cnt) (Nat.mul_pos (by decide) hc) (Nat.le_of_lt_succ (Nat.lt_of_lt_of_le hlen hS))
          fun n hn hu => List.mem_filter.mpr ⟨hk n (by omega) hu, ?_⟩
        rw [bne_iff_ne]
        exact fun heq => by have := cand_lower_inj heq; omega
theorem double_free (used : List Name) (base : Name) :
    free used base (double used base used.length 1) = true :=
  double_free_aux used base used.length used 1 (by decide) (Nat.le_refl _) (fun _ _ h => h)

/-- the bisection keeps "the current candidate is free" (freeness is NOT monotone in the suffix) -/
theorem bisect_free (used : List Name) (base : Name) :
    ∀ (f cnt step : Nat), free used base cnt = true → free used base (bisect used base f cnt step) = true := by
  intro f
  induction f with
  | zero => intro cnt step h; exact h
  | succ f ih =>
      intro cnt step h
      simp only [bisect]
      split
      · exact h
      · apply ih
        split
        · assumption
        · exact h

theorem suffix_free (used : List Name) (base : Name) : free used base (suffix used base) = true := by
  unfold suffix
  exact bisect_free used base _ _ _ (double_free used base)

theorem pick_fresh (used : List Name) (base : Name) : lower (pick used base) ∉ used := by
  unfold pick
  split
  · exact free_iff.mp (suffix_free used base)
  · rename_i h
    simpa using h

structure ScopeOk (used names used' : List Name) : Prop where
  mono : ∀ u ∈ used, u ∈ used'
  inUsed : ∀ n ∈ names, lower n ∈ used'
  fresh : ∀ n ∈ names, lower n ∉ used
  nodup : (names.map lower).Nodup

theorem ScopeOk.nil (used : List Name) : ScopeOk used [] used :=
  ⟨fun _ h => h, fun _ h => (nomatch h), fun _ h => (nomatch h), List.nodup_nil⟩

theorem ScopeOk.single {used : List Name} {n : Name} (h : lower n ∉ used) : ScopeOk used [n] (lower n :: used) :=
  ⟨fun _ hu => List.mem_cons_of_mem _ hu, fun _ hm => List.mem_singleton.mp hm ▸ List.mem_cons_self,
    fun _ hm => List.mem_singleton.mp hm ▸ h, List.pairwise_singleton _ _⟩

theorem ScopeOk.append {u n₁ u₁ u₂ n₂ u₂' : List Name} (h₁ : ScopeOk u n₁ u₁) (h₂ : ScopeOk u₂ n₂ u₂')
    (hsub : ∀ x ∈ u₁, x ∈ u₂) : ScopeOk u (n₁ ++ n₂) u₂' where
  mono x hx := h₂.mono x (hsub x (h₁.mono x hx))
  inUsed n hn := (List.mem_append.mp hn).elim (fun h => h₂.mono _ (hsub _ (h₁.inUsed n h))) (h₂.inUsed n)
  fresh n hn := (List.mem_append.mp hn).elim (h₁.fresh n) fun h hin => h₂.fresh n h (hsub _ (h₁.mono _ hin))
  nodup := by
    rw [List.map_append]
    refine List.nodup_append.mpr ⟨h₁.nodup, h₂.nodup, fun a ha b hb heq => ?_⟩
    obtain ⟨n, hn, rfl⟩ := List.mem_map.mp ha
    obtain ⟨m, hm, rfl⟩ := List.mem_map.mp hb
    exact h₂.fresh m hm (heq ▸ hsub _ (h₁.inUsed n hn))

theorem assignScope_ok (cfg : SanCfg) : ∀ (raws used : List Name),
    ScopeOk used (assignScope cfg used raws).1 (assignScope cfg used raws).2 := by
  intro raws
  induction raws with
  | nil => exact ScopeOk.nil
  | cons r rs ih =>
    intro used
    exact (ScopeOk.single (pick_fresh used (sanitizeWith cfg r))).append (ih _) fun _ h => h

theorem scan_alnum_cons {c : Char} (h : isAlnum c = true) (p : Bool) (cs : List Char) :
    scan p (c :: cs) = scan false cs := by rw [scan, if_pos h]

theorem scan_underscore (cs : List Char) : scan false ('_' :: cs) = scan true cs := rfl

theorem scan_append : ∀ (a : List Char) (p : Bool) (b : List Char),
    scan p a = true → scan false b = true → scan p (a ++ b) = true := by
  intro a
  induction a with
  | nil =>
      intro p b h hb
      cases p
      · exact hb
      · cases h
  | cons c cs ih =>
      intro p b h hb
      rw [List.cons_append, scan]
      rw [scan] at h
      split at h
      · rw [if_pos ‹_›]
        exact ih false b h hb
      · split at h
        · rw [if_neg ‹_›, if_pos ‹_›]
          exact ih true b h hb
        · cases h

/-- an identifier stays one when identifier characters (not starting with an underline) are appended -/
theorem basicId_append {a b : Name} (ha : basicId a = true) (hb : scan false b = true) : basicId (a ++ b) = true := by
  cases a with
  | nil => cases ha
  | cons c cs =>
    obtain ⟨hc, hcs⟩ := Bool.and_eq_true_iff.mp ha
    exact Bool.and_eq_true_iff.mpr ⟨hc, scan_append cs false b hcs hb⟩

theorem scan_alnum : ∀ (l : List Char), (∀ c ∈ l, isAlnum c = true) → scan false l = true := by
  intro l
  induction l with
  | nil => intro _; rfl
  | cons c cs ih =>
      intro h
      exact (scan_alnum_cons (h c List.mem_cons_self) _ _).trans (ih fun d hd => h d (List.mem_cons_of_mem _ hd))

theorem scan_digits (n : Nat) : scan false (digits n) = true :=
  scan_alnum _ (fun c hc => by simp [isAlnum, digitsF_isDigit n n c hc])

theorem squeeze_started : ∀ (cs : List Char) (pend : Bool), scan false (squeeze pend true cs) = true := by
  intro cs
  induction cs with
  | nil => intro pend; rfl
  | cons c cs ih =>
      intro pend
      rw [squeeze]
      split
      · rename_i hc
        cases pend
        · exact (scan_alnum_cons hc _ _).trans (ih false)
        · exact (scan_underscore _).trans ((scan_alnum_cons hc _ _).trans (ih false))
      · exact ih true

theorem squeeze_fresh : ∀ (cs : List Char) (pend : Bool),
    squeeze pend false cs = [] ∨
    ∃ c rest, squeeze pend false cs = c :: rest ∧ isAlnum c = true ∧ scan false rest = true := by
  intro cs
  induction cs with
  | nil => intro pend; left; rfl
  | cons c cs ih =>
      intro pend
      rw [squeeze, Bool.and_false]
      split
      · exact Or.inr ⟨c, _, rfl, ‹_›, squeeze_started cs false⟩
      · exact ih true

theorem basicId_unnamed : basicId unnamed = true := by decide +kernel

theorem basicId_sanitizeWith (cfg : SanCfg) (hc : goodCfg cfg = true) (raw : Name) :
    basicId (sanitizeWith cfg raw) = true := by
  obtain ⟨hempty, hpre⟩ := Bool.and_eq_true_iff.mp hc
  have hpre : basicId cfg.pre = true := hpre
  rcases squeeze_fresh raw false with h | ⟨c, rest, h, hc1, hr⟩
  · rw [sanitizeWith, h]
    exact hempty
  · rw [sanitizeWith, h, fixStartWith]
    split
    · exact Bool.and_eq_true_iff.mpr ⟨‹_›, hr⟩
    · exact basicId_append hpre ((scan_alnum_cons hc1 _ _).trans hr)

theorem goodCfg_default : goodCfg defaultCfg = true := by decide +kernel

theorem basicId_sanitize (raw : Name) : basicId (sanitize raw) = true :=
  basicId_sanitizeWith defaultCfg goodCfg_default raw

theorem basicId_pick (used : List Name) (base : Name) (h : basicId base = true) :
    basicId (pick used base) = true := by
  unfold pick
  split
  · exact basicId_append h (scan_digits _)
  · exact h

theorem assignScope_basicId (cfg : SanCfg) (hc : goodCfg cfg = true) :
    ∀ (raws used : List Name), ∀ n ∈ (assignScope cfg used raws).1, basicId n = true := by
  intro raws
  induction raws with
  | nil => intro used n hn; cases hn
  | cons r rs ih =>
      intro used n hn
      simp only [assignScope] at hn
      rcases List.mem_cons.mp hn with rfl | hn
      · exact basicId_pick _ _ (basicId_sanitizeWith cfg hc r)
      · exact ih _ n hn

end CohdlVerif.C06
