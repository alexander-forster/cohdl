import CohdlVerif.Lemmas.C01Heap
import CohdlVerif.Lemmas.C01Run
import CohdlVerif.Lemmas.C01Pending

/-! C01 - the simulation between the reference semantics and the final block heap: the machine on the heap
  (`mStep`), the step-indexed simulation `SimN`, simulation of one piece of code (`SimPt2`) and of the tail of a block
  (`TailSim2`), the relation `Fut` between an intermediate compiler state and the final heap, the levels `lvl`, the
  premises `Prems` and the claim `SimG` / `SimGAt` proved per statement kind; statements translated without a
  transition (`PlainResQ`, `TailSim2.of_plain`, the claim `PlainX`).  The `2` in `SimPt2`, `TailSim2` has no meaning. -/
namespace CohdlVerif.C01

variable {σ : Type} (act : Nat → σ → σ) (cond : Nat → σ → Bool)
variable (prog : Stmt) (Hf : Nat → Blk) (E : Nat → σ → σ × Option Nat) (Rf : Nat → Nat) (Sf : List Nat)

/-- one clock of the final machine on the block heap: state `i` runs the root block `Sf[i]` -/
def mStep (i : Nat) (s : σ) : Nat × σ :=
  match Sf[i]? with
  | some r => ((E r s).2.getD i, (E r s).1)
  | none => (i, s)

/-- step-indexed simulation: suspension `r` of the reference and state `i` of the machine agree for `m` clocks -/
def SimN : Nat → Susp → Nat → Prop
  | 0, _, _ => True
  | m+1, r, i => ∀ s : σ, ∃ f r', refStep act cond f prog r s = some (r', (mStep E Sf i s).2) ∧
      SimN m r' (mStep E Sf i s).1

/-- state index in which block `x` is executed -/
def cur (x : Nat) : Nat := Sf.idxOf (Rf x)

/-- result of the tail `suf` of block `x` (its items after the current ones) including the front transition -/
def tailF (x : Nat) (suf : List Item) (s : σ) : σ × Option Nat :=
  ((execI act cond E suf s).1, por (execI act cond E suf s).2 (lastT (Hf x).front))

theorem SimN_mono : ∀ (m : Nat) (r : Susp) (i : Nat),
    SimN act cond prog E Sf (m+1) r i → SimN act cond prog E Sf m r i := by
  intro m
  induction m with
  | zero => intro r i _; trivial
  | succ m ih =>
    intro r i h s
    obtain ⟨f, r', h1, h2⟩ := h s
    exact ⟨f, r', h1, ih _ _ h2⟩

theorem SimN_mono_le (m m' : Nat) (hle : m ≤ m') (r : Susp) (i : Nat)
    (h : SimN act cond prog E Sf m' r i) : SimN act cond prog E Sf m r i := by
  induction hle with
  | refl => exact h
  | step _ ih => exact ih (SimN_mono act cond prog E Sf _ _ _ h)

/-- the final heap `Hf` (roots `Rf`, states `Sf`) is a possible future of the compiler state `s` in which only the
    blocks in `P` are still pending -/
structure Fut (Hf : Nat → Blk) (Rf : Nat → Nat) (Sf : List Nat) (s : CSt) (P : Nat → Prop) : Prop where
  items : ∀ x, x < s.next → (s.heap x).items <+: (Hf x).items
  closed : ∀ x, x < s.next → ¬ P x → Hf x = s.heap x
  root : ∀ x, x < s.next → Rf x = s.root x
  states : s.states <+: Sf

theorem Fut.back {Hf : Nat → Blk} {Rf : Nat → Nat} {Sf : List Nat} {s s' : CSt} {O O' : List Nat} {P P' : Nat → Prop}
    (h : Step s O s' O') (hO : ∀ o ∈ O, P o) (hP' : ∀ x, P' x → P x ∨ s.next ≤ x) (F : Fut Hf Rf Sf s' P') :
    Fut Hf Rf Sf s P where
  items := fun x hx => (h.items_mono x hx).trans (F.items x (by have := h.next_le; omega))
  closed := by
    intro x hx hP
    have hxO : x ∉ O := fun hm => hP (hO x hm)
    have hnP' : ¬ P' x := fun hp => by rcases hP' x hp with h1 | h1; exact hP h1; omega
    rw [F.closed x (by have := h.next_le; omega) hnP', h.frame x hx hxO]
  root := fun x hx => by rw [F.root x (by have := h.next_le; omega), h.root_stable x hx]
  states := h.states_mono.trans F.states

theorem Fut.weaken {Hf : Nat → Blk} {Rf : Nat → Nat} {Sf : List Nat} {s : CSt} {P P' : Nat → Prop}
    (hP : ∀ x, P x → P' x) (F : Fut Hf Rf Sf s P) : Fut Hf Rf Sf s P' :=
  ⟨F.items, fun x hx h => F.closed x hx (fun hp => h (hP x hp)), F.root, F.states⟩

/-- a statement translated without any transition: it only appended pure code to its block -/
structure PlainRes (t : Stmt) (x : Nat) (s s' : CSt) : Prop where
  front : (s'.heap x).front = (s.heap x).front
  sem : ∃ (added : List Item) (eff : σ → σ), (s'.heap x).items = (s.heap x).items ++ added ∧
    (∀ σ0, execI act cond E added σ0 = (eff σ0, none)) ∧
    ∀ st σ0, RunTo act cond t st s.atStart σ0 .skip st s'.atStart (eff σ0)

theorem tailF_act (x a : Nat) (suf : List Item) (s0 : σ) :
    tailF act cond Hf E x (.act a :: suf) s0 = tailF act cond Hf E x suf (act a s0) := rfl

theorem mStep_some (i r : Nat) (h : Sf[i]? = some r) (s0 : σ) :
    mStep E Sf i s0 = ((E r s0).2.getD i, (E r s0).1) := by
  simp [mStep, h]

theorem E_empty (hE : ∀ b s, E b s = execB act cond E (Hf b) s) (r : Nat) (h : Hf r = {}) (s0 : σ) :
    E r s0 = (s0, none) := by
  rw [hE, h]; rfl

/-- a state whose code is empty simulates the stopped coroutine -/
theorem SimN_stopped (i : Nat) (h : ∀ s0 : σ, mStep E Sf i s0 = (i, s0)) :
    ∀ m, SimN act cond prog E Sf m .stopped i := by
  intro m
  induction m with
  | zero => trivial
  | succ m ih =>
    intro s0
    refine ⟨1, .stopped, ?_, ?_⟩
    · rw [h]; rfl
    · rw [h]; exact ih

/-- the state index of block 0 is 0 -/
theorem cur_zero {s : CSt} {P : Nat → Prop} (hsi : SInv s) (h0 : 0 < s.next) (hF : Fut Hf Rf Sf s P) :
    cur Rf Sf 0 = 0 ∧ Sf[0]? = some 0 := by
  obtain ⟨tl, htl⟩ := hsi.states0
  obtain ⟨t, ht⟩ := hF.states
  rw [htl] at ht
  constructor
  · rw [cur, hF.root 0 h0, hsi.root0, ← ht]; simp
  · rw [← ht]; simp

theorem E_tailF (hE : ∀ b s, E b s = execB act cond E (Hf b) s) (b : Nat) (s0 : σ) :
    E b s0 = tailF act cond Hf E b (Hf b).items s0 := by
  rw [hE]; rfl

/-- a block whose code is a single `If` -/
theorem E_single_ite (hE : ∀ b s, E b s = execB act cond E (Hf b) s) (b c t e : Nat)
    (h : Hf b = { front := [], items := [.ite c t e] }) (s0 : σ) :
    E b s0 = if cond c s0 then E t s0 else E e s0 := by
  rw [hE b, h]
  simp only [execB, execI, lastT, por_none_right, por_none_left]

/-- a piece of code with result `res`, run in state `i`, against the reference at `(q, st, fr, s)`: the reference
    suspends with the same data, and the suspension simulates for `m - 1` more clocks the state the code goes to;
    unless the process is still fresh, the code sets a transition -/
def SimPt2 (m i : Nat) (res : σ × Option Nat) (q : Stmt) (st : List Frame) (fr : Bool) (s : σ) : Prop :=
  m = 0 ∨ ∃ f r, run act cond f q st fr s = some (r, res.1) ∧ SimN act cond prog E Sf (m-1) r (res.2.getD i) ∧
    (fr = false → res.2.isSome = true)

/-- block `x` with items `pre` so far is at the reference position `(q, st, fr)`: what the final heap has after `pre`
    in `x`, run in the state of `x`, simulates `q` and what follows on `st` for `m` clocks -/
def TailSim2 (m x : Nat) (pre : List Item) (q : Stmt) (st : List Frame) (fr : Bool) : Prop :=
  ∀ suf, (Hf x).items = pre ++ suf → ∀ s : σ,
    SimPt2 act cond prog E Sf m (cur Rf Sf x) (tailF act cond Hf E x suf s) q st fr s

theorem SimPt2_mono_le (m m' i : Nat) (hle : m ≤ m') (res : σ × Option Nat) (q : Stmt) (st : List Frame) (fr : Bool)
    (s : σ) (h : SimPt2 act cond prog E Sf m' i res q st fr s) : SimPt2 act cond prog E Sf m i res q st fr s := by
  rcases h with h | ⟨f, r, h1, h2, h3⟩
  · left; omega
  · by_cases hm : m = 0
    · exact Or.inl hm
    · exact Or.inr ⟨f, r, h1, SimN_mono_le act cond prog E Sf _ _ (by omega) _ _ h2, h3⟩

theorem TailSim2_mono_le (m m' x : Nat) (hle : m ≤ m') (pre : List Item) (q : Stmt) (st : List Frame) (fr : Bool)
    (h : TailSim2 act cond prog Hf E Rf Sf m' x pre q st fr) : TailSim2 act cond prog Hf E Rf Sf m x pre q st fr :=
  fun suf hs s => SimPt2_mono_le act cond prog E Sf m m' _ hle _ _ _ _ _ (h suf hs s)

theorem SimPt2_pull {m i : Nat} {res : σ × Option Nat} {q q' : Stmt} {st st' : List Frame} {fr fr' : Bool} {s s' : σ}
    (hr : RunTo act cond q st fr s q' st' fr' s') (hfr : fr = false → fr' = false)
    (h : SimPt2 act cond prog E Sf m i res q' st' fr' s') : SimPt2 act cond prog E Sf m i res q st fr s := by
  rcases h with h | ⟨f, r, h1, h2, h3⟩
  · exact Or.inl h
  · obtain ⟨f', hf'⟩ := hr f _ h1
    exact Or.inr ⟨f', r, hf', h2, fun h => h3 (hfr h)⟩

/-- a block whose remaining code is its front transition to state `t`: the reference suspends, at a suspension that
    simulates state `t` -/
theorem SimPt2.suspend {m i t : Nat} {q : Stmt} {st : List Frame} {fr : Bool} {s0 : σ} {r : Susp} (x : Nat)
    (hx : lastT (Hf x).front = some t) (hr : run act cond 1 q st fr s0 = some (r, s0))
    (hs : SimN act cond prog E Sf (m - 1) r t) :
    SimPt2 act cond prog E Sf m i (tailF act cond Hf E x [] s0) q st fr s0 := by
  have e : tailF act cond Hf E x [] s0 = (s0, some t) := by
    show (s0, por none (lastT (Hf x).front)) = _
    rw [hx]; rfl
  rw [e]
  exact Or.inr ⟨1, r, hr, hs, fun _ => rfl⟩

/-- clocks for which block `x` has to simulate.  `R0`: root blocks of the states whose code runs in the current clock;
    a block of another state is reached a clock later, so one clock less is asked of it.  A block that runs another
    inline (a `continue` block runs the body block) needs that block at its own level. -/
def lvl (R0 : List Nat) (m x : Nat) : Nat := if Rf x ∈ R0 then m else m - 1

theorem lvl_le (R0 : List Nat) (m x : Nat) : lvl Rf R0 m x ≤ m := by unfold lvl; split <;> omega

theorem lvl_ge (R0 : List Nat) (m x : Nat) : m - 1 ≤ lvl Rf R0 m x := by unfold lvl; split <;> omega

/-- re-basing the levels at one block -/
theorem lvl_rebase (R0 : List Nat) (m o o' : Nat) : lvl Rf [Rf o] (lvl Rf R0 m o) o' ≤ lvl Rf R0 m o' := by
  by_cases h : Rf o' = Rf o
  · simp [lvl, h]
  · have : Rf o' ∉ [Rf o] := by simpa using h
    simp only [lvl, this, if_false]
    have := lvl_le Rf R0 m o
    have := lvl_ge Rf R0 m o'
    simp only [lvl] at *
    omega

theorem lvl_self (m o : Nat) : lvl Rf [Rf o] m o = m := by simp [lvl]

/-- the premises of the simulation claim: every pending output simulates its continuation -/
structure Prems (m : Nat) (R0 : List Nat) (st : List Frame) (s : CSt) (r : List Nat × CSt) : Prop where
  op : ∀ o' ∈ r.1, TailSim2 act cond prog Hf E Rf Sf (lvl Rf R0 m o') o' (r.2.heap o').items .skip st r.2.atStart
  li : ∀ o' q, Listed s r.2 o' q →
    TailSim2 act cond prog Hf E Rf Sf (lvl Rf R0 m o') o' (r.2.heap o').items q st r.2.atStart

theorem Prems.mono {m m' : Nat} {R0 R0' : List Nat} {st : List Frame} {s : CSt} {r : List Nat × CSt}
    (h : Prems act cond prog Hf E Rf Sf m R0 st s r) (hle : ∀ x, lvl Rf R0' m' x ≤ lvl Rf R0 m x) :
    Prems act cond prog Hf E Rf Sf m' R0' st s r :=
  ⟨fun o' ho' => TailSim2_mono_le act cond prog Hf E Rf Sf _ _ o' (hle o') _ _ _ _ (h.op o' ho'),
   fun o' q hq => TailSim2_mono_le act cond prog Hf E Rf Sf _ _ o' (hle o') _ _ _ _ (h.li o' q hq)⟩

/-- the simulation claim for `t` translated from `(O, s)`, reference at `(st, fr)`, `m` clocks in the segment `R0`: if
    nothing was rejected, the final heap is a future of the result with at most `P'` pending, what of `P'` this step
    could touch is among its outputs, and every output simulates what follows `t` (`Prems`), then every block open
    before simulates `t` and what follows.  It is used backwards from the end of the program (`start_simW`). -/
def SimCl (t : Stmt) (st : List Frame) (O : List Nat) (s : CSt) (m : Nat) (R0 : List Nat) (P' : Nat → Prop) (fr : Bool) :
    Prop :=
  (compile t O s).2.bad = false → Fut Hf Rf Sf (compile t O s).2 P' →
  (∀ y, P' y → y < (compile t O s).2.next → (y ∈ O ∨ s.next ≤ y) → y ∈ Outs s (compile t O s).1 (compile t O s).2) →
  Prems act cond prog Hf E Rf Sf m R0 st s (compile t O s) →
  ∀ o ∈ O, TailSim2 act cond prog Hf E Rf Sf (lvl Rf R0 m o) o (s.heap o).items t st fr

def SimG (t : Stmt) (l : Bool) : Prop :=
  ∀ (st : List Frame) (O : List Nat) (s : CSt) (m : Nat) (R0 : List Nat) (P' : Nat → Prop),
    Inv s O → SInv s → (l = true → s.atStart = false) → SimCl act cond prog Hf E Rf Sf t st O s m R0 P' s.atStart

/-- the claim `SimG` for the compiler states in which the first state is still empty (`fr = true`) or is not -/
def SimGAt (t : Stmt) (fr : Bool) : Prop :=
  ∀ (st : List Frame) (O : List Nat) (s : CSt) (m : Nat) (R0 : List Nat) (P' : Nat → Prop),
    Inv s O → SInv s → s.atStart = fr → SimCl act cond prog Hf E Rf Sf t st O s m R0 P' fr

/-- inside a loop the first state is never empty -/
theorem SimG.of_at {t : Stmt} {l : Bool} (h0 : SimGAt act cond prog Hf E Rf Sf t false)
    (h1 : l = false → SimGAt act cond prog Hf E Rf Sf t true) : SimG act cond prog Hf E Rf Sf t l := by
  intro st O s m R0 P' hi hsi hL
  cases hst : s.atStart with
  | false => exact h0 st O s m R0 P' hi hsi hst
  | true =>
    have hl : l = false := by
      cases l with
      | false => rfl
      | true => rw [hL rfl] at hst; cases hst
    exact h1 hl st O s m R0 P' hi hsi hst

theorem Prems.congr {m : Nat} {R0 : List Nat} {st : List Frame} {s s1 : CSt} {r : List Nat × CSt}
    (h : SameLists s s1) (p : Prems act cond prog Hf E Rf Sf m R0 st s r) : Prems act cond prog Hf E Rf Sf m R0 st s1 r :=
  ⟨p.op, fun o' q hq => p.li o' q ((Listed.congr h).mp hq)⟩

/-- levels below `lvl R0 m o - 1`, in a new segment, are below the given ones -/
theorem lvl_new_le (R0 R1 : List Nat) (m o j : Nat) (hj : j ≤ lvl Rf R0 m o - 1) (x : Nat) :
    lvl Rf R1 j x ≤ lvl Rf R0 m x := by
  have h1 := lvl_le Rf R1 j x
  have h2 := lvl_le Rf R0 m o
  have h3 := lvl_ge Rf R0 m x
  omega

theorem lvl_mono (R : List Nat) (j j' x : Nat) (h : j ≤ j') : lvl Rf R j x ≤ lvl Rf R j' x := by
  unfold lvl; split <;> omega

/-- levels up to the level of `o`, re-based at a block `o2` of the same state as `o` -/
theorem lvl_same_le (R0 : List Nat) (m o o2 j : Nat) (h2 : Rf o2 = Rf o) (hj : j ≤ lvl Rf R0 m o) (x : Nat) :
    lvl Rf [Rf o2] j x ≤ lvl Rf R0 m x := by
  rw [h2]
  exact Nat.le_trans (lvl_mono Rf _ _ _ x hj) (lvl_rebase Rf R0 m o x)

/-- a tail that simulates `q'` also simulates `q` when the reference runs from `q` to `q'` without changing the data -/
theorem TailSim2.pull {m x : Nat} {pre : List Item} {q q' : Stmt} {st st' : List Frame} {fr fr' : Bool}
    (hr : ∀ s : σ, RunTo act cond q st fr s q' st' fr' s) (hfr : fr = false → fr' = false)
    (h : TailSim2 act cond prog Hf E Rf Sf m x pre q' st' fr') : TailSim2 act cond prog Hf E Rf Sf m x pre q st fr :=
  fun suf hs s0 => SimPt2_pull act cond prog E Sf (hr s0) hfr (h suf hs s0)

/-- a listed block leaves through a `seq` frame -/
theorem Listed.runTo_seq {s s' : CSt} {y : Nat} {q : Stmt} (h : Listed s s' y q) (k : Stmt) (st : List Frame) (fr : Bool)
    (s0 : σ) : RunTo act cond q (.seq k :: st) fr s0 q st fr s0 := by
  rcases h with ⟨_, rfl⟩ | ⟨_, rfl⟩ | ⟨_, rfl⟩
  · exact RunTo.brk_seq act cond k st fr s0
  · exact RunTo.cont_seq act cond k st fr s0
  · exact RunTo.ret_seq act cond k st fr s0

/-- premises below a `seq` frame -/
theorem Prems.seq {m : Nat} {R0 : List Nat} {st : List Frame} {k : Stmt} {s : CSt} {r : List Nat × CSt}
    (hA : r.2.atStart = false)
    (op : ∀ o' ∈ r.1, TailSim2 act cond prog Hf E Rf Sf (lvl Rf R0 m o') o' (r.2.heap o').items k st false)
    (li : ∀ o' q, Listed s r.2 o' q →
      TailSim2 act cond prog Hf E Rf Sf (lvl Rf R0 m o') o' (r.2.heap o').items q st false) :
    Prems act cond prog Hf E Rf Sf m R0 (.seq k :: st) s r := by
  refine ⟨?_, ?_⟩ <;> rw [hA]
  · exact fun o' ho' => (op o' ho').pull act cond prog Hf E Rf Sf (fun s0 => RunTo.skip_seq act cond k st false s0) (fun h => h)
  · exact fun o' q hq => (li o' q hq).pull act cond prog Hf E Rf Sf (fun s0 => hq.runTo_seq act cond k st false s0) (fun h => h)

/-- when a transition is certainly set the state in which the code runs does not matter -/
theorem SimPt2_cur {m i i' : Nat} {res : σ × Option Nat} {q : Stmt} {st : List Frame} {s : σ}
    (h : SimPt2 act cond prog E Sf m i res q st false s) : SimPt2 act cond prog E Sf m i' res q st false s := by
  rcases h with h | ⟨f, r, h1, h2, h3⟩
  · exact Or.inl h
  · obtain ⟨t, ht⟩ := Option.isSome_iff_exists.mp (h3 rfl)
    refine Or.inr ⟨f, r, h1, ?_, h3⟩
    rw [ht] at h2 ⊢; exact h2

/-- a block that simulates from its first item on does so as a whole, run in any state -/
theorem TailSim2.run (hE : ∀ b s, E b s = execB act cond E (Hf b) s) {m x i : Nat} {q : Stmt} {st : List Frame}
    (h : TailSim2 act cond prog Hf E Rf Sf m x [] q st false) (s0 : σ) :
    SimPt2 act cond prog E Sf m i (E x s0) q st false s0 := by
  rw [E_tailF act cond Hf E hE]
  exact SimPt2_cur act cond prog E Sf (h _ rfl s0)

theorem lvl_congr (R0 : List Nat) (m x y : Nat) (h : Rf x = Rf y) : lvl Rf R0 m x = lvl Rf R0 m y := by
  simp [lvl, h]

/-- a statement translated without any transition that ends like `q` -/
structure PlainResQ (q t : Stmt) (x : Nat) (s s' : CSt) : Prop where
  front : (s'.heap x).front = (s.heap x).front
  sem : ∃ (added : List Item) (eff : σ → σ), (s'.heap x).items = (s.heap x).items ++ added ∧
    (∀ σ0, execI act cond E added σ0 = (eff σ0, none)) ∧
    ∀ st σ0, RunTo act cond t st s.atStart σ0 q st s'.atStart (eff σ0)

theorem PlainRes.toQ {t : Stmt} {x : Nat} {s s' : CSt} (h : PlainRes act cond E t x s s') :
    PlainResQ act cond E .skip t x s s' := ⟨h.front, h.sem⟩

/-- two plain pieces on the same block, one after the other -/
theorem PlainResQ.trans {q t k : Stmt} {x : Nat} {s s1 s2 : CSt} (h1 : PlainResQ act cond E k t x s s1)
    (h2 : PlainResQ act cond E q k x s1 s2) : PlainResQ act cond E q t x s s2 := by
  obtain ⟨hf1, added1, eff1, i1, e1, r1⟩ := h1
  obtain ⟨hf2, added2, eff2, i2, e2, r2⟩ := h2
  refine ⟨hf2.trans hf1, added1 ++ added2, fun σ0 => eff2 (eff1 σ0), by rw [i2, i1, List.append_assoc], fun σ0 => ?_,
    fun st σ0 => (r1 st σ0).trans act cond (r2 st _)⟩
  rw [execI_append, e1, e2]; rfl

theorem PlainResQ.of_act (a : Nat) (k : Stmt) (x : Nat) (s : CSt) (hA : s.atStart = false) :
    PlainResQ act cond E k (.act a k) x s (s.append x (.act a)) := by
  refine ⟨append_front s x x _, [.act a], act a, append_items s x _, fun _ => rfl, fun st σ0 => ?_⟩
  rw [append_atStart s x _ (fun h => by rw [hA] at h; cases h)]
  exact RunTo.act_ act cond a k st _ σ0

/-- a closed plain block: its semantics is its pure effect -/
theorem plain_closed (hE : ∀ b s, E b s = execB act cond E (Hf b) s) {q t : Stmt} {y : Nat} {s s' : CSt}
    (hp : PlainResQ act cond E q t y s s') (hi : (s.heap y).items = []) (hf : (s.heap y).front = [])
    (hc : Hf y = s'.heap y) :
    ∃ eff : σ → σ, (∀ σ0, E y σ0 = (eff σ0, none)) ∧
      ∀ st σ0, RunTo act cond t st s.atStart σ0 q st s'.atStart (eff σ0) := by
  obtain ⟨hfr, added, eff, h1, h2, h3⟩ := hp
  refine ⟨eff, ?_, h3⟩
  intro σ0
  rw [hE, hc, execB, h1, hi, List.nil_append, h2, hfr, hf]
  rfl

/-- a plain piece in front of a simulated tail -/
theorem TailSim2.of_plain {m x : Nat} {t k : Stmt} {s s' : CSt} {st : List Frame}
    (hp : PlainResQ act cond E k t x s s') (hs' : s.atStart = false → s'.atStart = false)
    (hpre : (s'.heap x).items <+: (Hf x).items)
    (h : TailSim2 act cond prog Hf E Rf Sf m x (s'.heap x).items k st s'.atStart) :
    TailSim2 act cond prog Hf E Rf Sf m x (s.heap x).items t st s.atStart := by
  obtain ⟨_, added, eff, hi, he, hr⟩ := hp
  rw [hi] at hpre h
  intro suf hsuf s0
  obtain ⟨rest, rfl⟩ := tail_split hsuf hpre
  have h1 := h rest (by rw [hsuf, List.append_assoc]) (eff s0)
  have htl : tailF act cond Hf E x (added ++ rest) s0 = tailF act cond Hf E x rest (eff s0) := by
    simp only [tailF, execI_append, he, por_none_right]
  rw [htl]
  exact SimPt2_pull act cond prog E Sf (hr st s0) hs' h1

/-- if block `x` is still open (or returned) after translating `t` from it, `t` only appended pure code to `x`, and the
    reference runs through `t` to `skip` (to `return`) with the effect of that code -/
def PlainX (t : Stmt) : Prop :=
  ∀ (x : Nat) (s : CSt) (P' : Nat → Prop), Inv s [x] → SInv s → s.atStart = false →
    Fut Hf Rf Sf (compile t [x] s).2 P' →
    (∀ y, P' y → y < (compile t [x] s).2.next → (y = x ∨ s.next ≤ y) → y = x) →
    (x ∈ (compile t [x] s).1 → PlainResQ act cond E .skip t x s (compile t [x] s).2) ∧
    (x ∈ dR s (compile t [x] s).2 → PlainResQ act cond E .ret t x s (compile t [x] s).2)

end CohdlVerif.C01
