import CohdlVerif.Model.C20

/-!
  C20 - helper lemmas: address containment, `stretch` / `apply_mask` bit lemmas, invariants of the two
  slave state machines.
-/
namespace CohdlVerif.C20

/-! ## address containment -/

theorem isPow2_spec {n : Nat} (h : isPow2 n = true) : n ≠ 0 ∧ 2 ^ Nat.log2 n = n := by
  simpa only [isPow2, Bool.and_eq_true, bne_iff_ne, ne_eq, beq_iff_eq] using h

/-- a quotient test on an aligned block is the range test -/
theorem div_eq_iff_range (count offset addr : Nat) (hc : 0 < count) (ha : offset % count = 0) :
    (addr / count = offset / count) ↔ (offset ≤ addr ∧ addr < offset + count) := by
  have hd : offset / count * count = offset := Nat.div_mul_cancel (Nat.dvd_of_mod_eq_zero ha)
  rw [Nat.div_eq_iff hc, hd]
  omega

/-- the mirror of `_contains_addr_` decides exactly `offset ≤ addr < offset + count` (both paths) -/
theorem containsAddr_iff (offset count addr : Nat) (hc : 0 < count) :
    containsAddr offset count addr = true ↔ inRange offset count addr := by
  unfold containsAddr inRange
  split
  · rename_i h
    simp only [Bool.and_eq_true, beq_iff_eq] at h
    rw [Nat.shiftRight_eq_div_pow, (isPow2_spec h.1).2, beq_iff_eq]
    exact div_eq_iff_range count offset addr hc h.2
  · simp

theorem selectIdx_none (p : Reg → Bool) (regs : List Reg) (hpos : ∀ r ∈ regs, 0 < r.count) (addr : Nat)
    (h : ∀ r ∈ regs, p r = true → ¬ (r.offset ≤ addr ∧ addr < r.offset + r.count)) : selectIdx p regs addr = none := by
  rw [selectIdx, List.findIdx?_eq_none_iff]
  intro r hr
  rw [Bool.and_eq_false_iff]
  cases hp : p r
  · exact Or.inl rfl
  · exact Or.inr (Bool.eq_false_iff.mpr fun hc => h r hr hp ((containsAddr_iff _ _ addr (hpos r hr)).mp hc))

/-! ## stretch / apply_mask -/

/-- the block of ones that `stretch` writes for bit `w` -/
theorem testBit_block (f w i : Nat) (hf : 0 < f) : ((2 ^ f - 1) <<< (f * w)).testBit i = decide (i / f = w) := by
  rw [Nat.testBit_shiftLeft, Nat.testBit_two_pow_sub_one, ← Bool.decide_and, decide_eq_decide, Nat.div_eq_iff hf,
    Nat.mul_comm f w]
  omega

theorem testBit_stretch (w f v i : Nat) (hf : 0 < f) :
    (stretch w f v).testBit i = (decide (i / f < w) && v.testBit (i / f)) := by
  induction w with
  | zero => simp [stretch]
  | succ w ih =>
    have hblk : (if v.testBit w then (2 ^ f - 1) <<< (f * w) else 0).testBit i = (v.testBit w && decide (i / f = w)) := by
      split <;> simp [testBit_block _ _ _ hf, *]
    rw [stretch, Nat.testBit_or, ih, hblk]
    rcases Nat.lt_trichotomy (i / f) w with h | h | h
    · simp [h, Nat.lt_succ_of_lt h, Nat.ne_of_lt h]
    · simp [h]
    · simp [Nat.not_lt_of_gt h, Nat.ne_of_gt h, show ¬ i / f < w + 1 by omega]

theorem testBit_M32 (i : Nat) : M32.testBit i = decide (i < 32) := by
  have : M32 = 2 ^ 32 - 1 := by decide
  rw [this, Nat.testBit_two_pow_sub_one]

/-- bit i of the byte-strobe mask `stretch(strb, 8)` of a 4-bit strobe -/
def strobed (strb i : Nat) : Bool := decide (i / 8 < 4) && strb.testBit (i / 8)

/-- `apply_mask(old, new, stretch(strb, 8))`: strobed bits come from `new`, the others (below bit 32) from `old` -/
theorem testBit_applyMask_stretch (old new strb i : Nat) (hi : i < 32) :
    (applyMask old new (stretch 4 8 strb)).testBit i = (if strobed strb i then new.testBit i else old.testBit i) := by
  simp only [applyMask, Nat.testBit_or, Nat.testBit_and, Nat.testBit_xor, testBit_M32,
    testBit_stretch 4 8 strb i (by omega)]
  unfold strobed
  cases h : (decide (i / 8 < 4) && strb.testBit (i / 8)) <;> simp [hi]

/-! ## handshake bookkeeping of the slave state machines -/

/-- handshakes seen on the five channels since the last reset -/
structure Cnt where
  aw : Nat := 0
  w : Nat := 0
  b : Nat := 0
  ar : Nat := 0
  r : Nat := 0
  deriving Repr, DecidableEq

def b2n (b : Bool) : Nat := if b then 1 else 0

/-- a handshake happens on a channel in a clock iff valid and ready are both high at the rising edge -/
def cntStep (c : Core) (i : In) (n : Cnt) : Cnt :=
  if i.rst then {} else
  { aw := n.aw + b2n (i.awvalid && c.wr.awready)
    w := n.w + b2n (i.wvalid && c.wr.wready)
    b := n.b + b2n (c.wr.bvalid && i.bready)
    ar := n.ar + b2n (i.arvalid && c.rd.arready)
    r := n.r + b2n (c.rd.rvalid && i.rready) }

/-- invariant of `proc_write` together with the handshake counters -/
def WInv (c : WrCore) (n : Cnt) : Prop :=
  (c.ws = 0 ∧ c.awready = false ∧ c.wready = false ∧ c.bvalid = false ∧ n.aw = n.b ∧ n.w = n.b) ∨
  (c.ws = 1 ∧ c.awready = !c.aL ∧ c.wready = !c.dL ∧ c.bvalid = false ∧
     n.aw = n.b + b2n c.aL ∧ n.w = n.b + b2n c.dL ∧ (c.aL && c.dL) = false) ∨
  (c.ws = 2 ∧ c.awready = false ∧ c.wready = false ∧ c.bvalid = true ∧ n.aw = n.b + 1 ∧ n.w = n.b + 1)

/-- invariant of `proc_read` together with the handshake counters -/
def RInv (c : RdCore) (n : Cnt) : Prop :=
  (c.rs = 0 ∧ c.arready = false ∧ c.rvalid = false ∧ n.ar = n.r) ∨
  (c.rs = 1 ∧ c.arready = true ∧ c.rvalid = false ∧ n.ar = n.r) ∨
  (c.rs = 2 ∧ c.arready = false ∧ c.rvalid = true ∧ n.ar = n.r + 1)

theorem WInv_init : WInv {} {} := by simp [WInv]
theorem RInv_init : RInv {} {} := by simp [RInv]

theorem b2n_or (a v : Bool) : b2n a + b2n (v && !a) = b2n (a || v) := by
  cases a <;> cases v <;> rfl

section
variable (c : WrCore) (i : In)

theorem wrStep_start (hs : c.ws = 0) :
    wrStep c i = { c with ws := 1, aL := false, dL := false, awready := true, wready := true } := by
  rw [wrStep, hs]
  rfl

theorem wrStep_req (hs : c.ws = 1) :
    wrStep c i =
      let c2 : WrCore :=
        { c with addr := wrAddr c i, data := wrData c i, strb := wrStrb c i, aL := c.aL || i.awvalid,
                 dL := c.dL || i.wvalid, awready := !(c.aL || i.awvalid), wready := !(c.dL || i.wvalid) }
      if (c.aL || i.awvalid) && (c.dL || i.wvalid) then { c2 with ws := 2, bvalid := true } else c2 := by
  rw [wrStep, hs]
  rfl

theorem wrStep_resp (hs : c.ws = 2) :
    wrStep c i =
      if i.bready then { c with ws := 1, bvalid := false, aL := false, dL := false, awready := true, wready := true }
      else c := by
  rw [wrStep, hs]
  rfl

end

section
variable (c : RdCore) (i : In) (rdata : Nat)

theorem rdStep_start (hs : c.rs = 0) : rdStep c i rdata = { c with rs := 1, arready := true } := by
  rw [rdStep, hs]
  rfl

theorem rdStep_req (hs : c.rs = 1) :
    rdStep c i rdata =
      if i.arvalid then { c with rs := 2, arready := false, rvalid := true, rdata := rdata } else c := by
  rw [rdStep, hs]
  rfl

theorem rdStep_resp (hs : c.rs = 2) :
    rdStep c i rdata = if i.rready then { c with rs := 1, arready := true, rvalid := false } else c := by
  rw [rdStep, hs]
  rfl

end

section
variable (c : Core) (i : In) (n : Cnt) (hr : i.rst = false)
include hr

theorem WInv_step (h : WInv c.wr n) : WInv (wrStep c.wr i) (cntStep c i n) := by
  rw [cntStep, hr]
  rcases h with ⟨hs, h1, h2, h3, h4, h5⟩ | ⟨hs, h1, h2, h3, h4, h5, h6⟩ | ⟨hs, h1, h2, h3, h4, h5⟩
  · rw [wrStep_start _ _ hs, h1, h2, h3, Bool.and_false, Bool.and_false]
    exact .inr (.inl ⟨rfl, rfl, rfl, rfl, h4, h5, rfl⟩)
  · rw [wrStep_req _ _ hs, h1, h2, h3, h4, h5, Nat.add_assoc, b2n_or, Nat.add_assoc, b2n_or]
    cases hc : (c.wr.aL || i.awvalid) && (c.wr.dL || i.wvalid)
    · exact .inr (.inl ⟨hs, rfl, rfl, rfl, rfl, rfl, hc⟩)
    · rw [Bool.and_eq_true] at hc
      rw [hc.1, hc.2]
      exact .inr (.inr ⟨rfl, rfl, rfl, rfl, rfl, rfl⟩)
  · rw [wrStep_resp _ _ hs, h1, h2, h3, Bool.and_false, Bool.and_false]
    cases i.bready
    · exact .inr (.inr ⟨hs, h1, h2, h3, h4, h5⟩)
    · exact .inr (.inl ⟨rfl, rfl, rfl, rfl, h4, h5, rfl⟩)

theorem RInv_step (rd : Nat) (h : RInv c.rd n) : RInv (rdStep c.rd i rd) (cntStep c i n) := by
  rw [cntStep, hr]
  rcases h with ⟨hs, h1, h2, h3⟩ | ⟨hs, h1, h2, h3⟩ | ⟨hs, h1, h2, h3⟩
  · rw [rdStep_start _ _ _ hs, h1, h2, Bool.and_false]
    exact .inr (.inl ⟨rfl, rfl, rfl, h3⟩)
  · rw [rdStep_req _ _ _ hs, h1, h2]
    cases i.arvalid
    · exact .inr (.inl ⟨hs, h1, h2, h3⟩)
    · exact .inr (.inr ⟨rfl, rfl, rfl, congrArg (· + 1) h3⟩)
  · rw [rdStep_resp _ _ _ hs, h1, h2, Bool.and_false]
    cases i.rready
    · exact .inr (.inr ⟨hs, h1, h2, h3⟩)
    · exact .inr (.inl ⟨rfl, rfl, rfl, h3⟩)

end

/-! a response channel in phase `ph`, with `m` completed requests, `b` responses and valid bit `v` -/

theorem resp_facts {ph b m : Nat} {v : Bool} (h : (v = false ∧ m = b) ∨ (ph = 2 ∧ v = true ∧ m = b + 1)) :
    (v = true → ph = 2) ∧ b ≤ m ∧ m ≤ b + 1 ∧ (v = true ↔ m = b + 1) := by
  rcases h with ⟨rfl, rfl⟩ | ⟨rfl, rfl, rfl⟩ <;> simp

theorem min_b2n (b : Nat) {a d : Bool} (h : (a && d) = false) : min (b + b2n a) (b + b2n d) = b := by
  cases a <;> cases d <;> simp [b2n] at h ⊢

theorem WInv.resp {c : WrCore} {n : Cnt} (h : WInv c n) :
    (c.bvalid = false ∧ min n.aw n.w = n.b) ∨ (c.ws = 2 ∧ c.bvalid = true ∧ min n.aw n.w = n.b + 1) := by
  rcases h with ⟨_, _, _, h3, h4, h5⟩ | ⟨_, _, _, h3, h4, h5, h6⟩ | ⟨hs, _, _, h3, h4, h5⟩
  · exact .inl ⟨h3, by rw [h4, h5, Nat.min_self]⟩
  · exact .inl ⟨h3, by rw [h4, h5, min_b2n _ h6]⟩
  · exact .inr ⟨hs, h3, by rw [h4, h5, Nat.min_self]⟩

theorem RInv.resp {c : RdCore} {n : Cnt} (h : RInv c n) :
    (c.rvalid = false ∧ n.ar = n.r) ∨ (c.rs = 2 ∧ c.rvalid = true ∧ n.ar = n.r + 1) := by
  rcases h with ⟨_, _, h2, h3⟩ | ⟨_, _, h2, h3⟩ | ⟨hs, _, h2, h3⟩
  · exact .inl ⟨h2, h3⟩
  · exact .inl ⟨h2, h3⟩
  · exact .inr ⟨hs, h2, h3⟩

section
variable (cfg : Cfg) (st : State) (i : In) (hr : i.rst = false)
include hr

theorem step_wr : (step cfg st i).core.wr = wrStep st.core.wr i := by
  rw [step, hr]
  rfl

theorem step_rd : (step cfg st i).core.rd = rdStep st.core.rd i (rdValue cfg st i) := by
  rw [step, hr]
  rfl

/-- what one clock does to register j of the bank -/
theorem bank_step_get (j : Nat) (s : RegSt) (hs : st.bank[j]? = some s) :
    (step cfg st i).bank[j]? = some
      (regStep cfg.fixed cfg.aw (cfg.regs.getD j dfltReg) s (i.hw.getD j {})
        (rdSel cfg st.core i == some j) (wrSel cfg st.core i == some j)
        (wrAddr st.core.wr i) (wrData st.core.wr i) (wrStrb st.core.wr i)) := by
  rw [step, hr]
  simp only [Bool.false_eq_true, if_false, bankStep, List.getElem?_mapIdx, hs, Option.map_some]

end

/-! ## register bank -/

/-- the field kinds of a register class occupy disjoint bits (what `Register.__init_subclass__` asserts) -/
def disjointMasks (r : Reg) : Prop :=
  ∀ b, (r.memMask.testBit b = true → r.hwMask.testBit b = false ∧ r.flagMask.testBit b = false) ∧
       (r.flagMask.testBit b = true → r.hwMask.testBit b = false)

variable {fixed : Bool} {aw : Nat} {r : Reg} {s : RegSt} {h : Hw} {rd wr : Bool} {addr data strb b : Nat}

theorem regStep_not_selected (hw : wr = false) :
    (regStep fixed aw r s h rd wr addr data strb).mem = s.mem ∧
    (regStep fixed aw r s h rd wr addr data strb).tx = s.tx ∧
    (regStep fixed aw r s h rd wr addr data strb).aux = s.aux ∧
    (regStep fixed aw r s h rd wr addr data strb).words = s.words := by
  simp [regStep, hw]

/-- the software-written bits: every bit of a `MemWord`, the `memMask` bits of an `Output` and, with the strobes
    respected (`fixed`), of a `Register` -/
theorem regStep_mem_strobed (hw : wr = true) (hb : b < 32)
    (hk : r.kind = .memWord ∨ r.memMask.testBit b = true ∧
      (r.kind = .output ∨ r.kind = .register ∧ fixed = true ∧ disjointMasks r)) :
    (regStep fixed aw r s h rd wr addr data strb).mem.testBit b =
      (if strobed strb b then data.testBit b else s.mem.testBit b) := by
  subst hw
  rcases hk with hk | ⟨hm, hk | ⟨hk, rfl, hdis⟩⟩
  · simp only [regStep, hk, Bool.not_true, Bool.false_eq_true, if_false]
    exact testBit_applyMask_stretch _ _ _ b hb
  · simp only [regStep, hk, Bool.not_true, Bool.false_eq_true, if_false, Nat.testBit_and, hm, Bool.and_true]
    exact testBit_applyMask_stretch _ _ _ b hb
  · have hd := (hdis b).1 hm
    simp only [regStep, hk, Bool.not_true, Bool.false_eq_true, if_false, if_true, Nat.testBit_and, hm, Bool.and_true]
    rw [testBit_applyMask_stretch _ _ _ b hb]
    split
    · rfl
    · simp [regValue, hk, Nat.testBit_or, Nat.testBit_and, hm, hd.1, hd.2]

theorem regStep_register_flag (hw : wr = true) (hk : r.kind = .register) (hdis : disjointMasks r) (hb : b < 32)
    (hm : r.flagMask.testBit b = true) (hc : h.clr.testBit b = false) :
    ((regStep true aw r s h rd wr addr data strb).tx ^^^ (regStep true aw r s h rd wr addr data strb).rx).testBit b =
      ((s.tx ^^^ s.rx).testBit b || (strobed strb b && data.testBit b)) := by
  subst hw
  have hd := (hdis b).2 hm
  have hmm : r.memMask.testBit b = false := Bool.eq_false_iff.mpr fun hx => Bool.noConfusion (hm.symm.trans ((hdis b).1 hx).2)
  simp only [regStep, hk, regValue, Bool.not_true, Bool.false_eq_true, if_false, if_true, Nat.testBit_and, Nat.testBit_or,
    Nat.testBit_xor, testBit_M32, testBit_applyMask_stretch _ _ _ b hb, hb, hm, hd, hmm, hc, decide_true, Bool.and_true,
    Bool.and_false, Bool.or_false, Bool.false_or]
  cases strobed strb b <;> cases data.testBit b <;> cases s.tx.testBit b <;> cases s.rx.testBit b <;> rfl

theorem regStep_memory (hwr : wr = true) (hk : r.kind = .memory) {w : Nat} (hw : w < s.words.length) (hb : b < 32) :
    ((regStep fixed aw r s h rd wr addr data strb).words.getD w 0).testBit b =
      (if w = relAddr aw r addr / 4 then
         (if strobed strb b then data.testBit b else (s.words.getD w 0).testBit b)
       else (s.words.getD w 0).testBit b) := by
  subst hwr
  simp only [regStep, hk, Bool.not_true, Bool.false_eq_true, if_false]
  by_cases he : w = relAddr aw r addr / 4
  · subst he
    simp only [if_true, List.getD_eq_getElem?_getD, List.getElem?_set_self hw, Option.getD_some]
    rw [testBit_applyMask_stretch _ _ _ b hb]
  · simp only [he, if_false, List.getD_eq_getElem?_getD]
    rw [List.getElem?_set_ne (Ne.symm he)]

/-- the hardware-side part of `regStep` writes the notification registers, whatever the kind -/
theorem regStep_hw :
    let s' := regStep fixed aw r s h rd wr addr data strb
    s'.pR = (rd && r.kind == .register && r.pushR) ∧ s'.pW = (wr && r.kind == .register && r.pushW) ∧
    s'.fRtx = (if rd && r.kind == .register && r.flagR then !s.fRrx else s.fRtx) ∧
    s'.fWtx = (if wr && r.kind == .register && r.flagW then !s.fWrx else s.fWtx) ∧
    s'.fRrx = (if h.nclrR && r.flagR then s.fRtx else s.fRrx) ∧
    s'.fWrx = (if h.nclrW && r.flagW then s.fWtx else s.fWrx) := by
  obtain ⟨k⟩ := r
  cases wr
  · exact ⟨rfl, rfl, rfl, rfl, rfl, rfl⟩
  · cases k <;> exact ⟨rfl, rfl, rfl, rfl, rfl, rfl⟩

end CohdlVerif.C20
