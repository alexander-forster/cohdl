import CohdlVerif.Model.CoroCompile

/-! C01 - two fragments of the grammar, both contained in the well-formed programs. -/
namespace CohdlVerif.C01

/-- fragment 1 of the grammar: no break / continue / return, no calls -/
def frag1 : Stmt → Bool
  | .skip => true
  | .act _ k => frag1 k
  | .await _ k => frag1 k
  | .awaitF => true
  | .ite _ t e k => frag1 t && frag1 e && frag1 k
  | .while_ _ b k => frag1 b && frag1 k
  | _ => false

/-- fragment 2 of the grammar: no `return`, no awaited sub-coroutines; `l` = inside a loop -/
def frag2 : Stmt → Bool → Bool
  | .skip, _ => true
  | .act _ k, l => frag2 k l
  | .await _ k, l => frag2 k l
  | .awaitF, _ => true
  | .ite _ t e k, l => frag2 t l && frag2 e l && frag2 k l
  | .while_ _ b k, l => frag2 b true && frag2 k l
  | .brk, l => l
  | .cont, l => l
  | .ret, _ => false
  | .call _ _, _ => false

theorem frag2_wf : ∀ (t : Stmt) (l : Bool), frag2 t l = true → wf t l false = true := by
  intro t
  induction t with
  | skip => intro _ _; rfl
  | act a k ih => intro l h; simpa [wf] using ih l (by simpa [frag2] using h)
  | await c k ih => intro l h; simpa [wf] using ih l (by simpa [frag2] using h)
  | awaitF => intro _ _; rfl
  | ite c t e k iht ihe ihk =>
    intro l h
    simp only [frag2, Bool.and_eq_true] at h
    simp [wf, iht l h.1.1, ihe l h.1.2, ihk l h.2]
  | while_ c b k ihb ihk =>
    intro l h
    simp only [frag2, Bool.and_eq_true] at h
    simp [wf, ihb true h.1, ihk l h.2]
  | brk => intro l h; simpa [wf, frag2] using h
  | cont => intro l h; simpa [wf, frag2] using h
  | ret => intro l h; simp [frag2] at h
  | call b k _ _ => intro l h; simp [frag2] at h

/-- every program of fragment 1 is a program of fragment 2 -/
theorem frag1_frag2 : ∀ (t : Stmt), frag1 t = true → ∀ l, frag2 t l = true := by
  intro t
  induction t with
  | skip => intro _ _; rfl
  | act a k ih => intro h l; simpa [frag2] using ih (by simpa [frag1] using h) l
  | await c k ih => intro h l; simpa [frag2] using ih (by simpa [frag1] using h) l
  | awaitF => intro _ _; rfl
  | ite c t e k iht ihe ihk =>
    intro h l
    simp only [frag1, Bool.and_eq_true] at h
    simp [frag2, iht h.1.1 l, ihe h.1.2 l, ihk h.2 l]
  | while_ c b k ihb ihk =>
    intro h l
    simp only [frag1, Bool.and_eq_true] at h
    simp [frag2, ihb h.1 true, ihk h.2 l]
  | brk => intro h; simp [frag1] at h
  | cont => intro h; simp [frag1] at h
  | ret => intro h; simp [frag1] at h
  | call b k _ _ => intro h; simp [frag1] at h

end CohdlVerif.C01
