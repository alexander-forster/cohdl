import CohdlVerif.Model.C13Types
/-! C13 part A - helper lemmas: cache lookup, the class-table invariant, `ensure`, request histories, reachability -/
namespace CohdlVerif.C13

theorem found_of_map_eq {α : Type} {f : α → Option Nat} {l : List α} {ids : List Nat} (h : l.map f = ids.map some) {x : α}
    (hx : x ∈ l) : ∃ i ∈ ids, f x = some i := by
  have : f x ∈ ids.map some := h ▸ List.mem_map_of_mem hx
  obtain ⟨i, hi, he⟩ := List.mem_map.mp this
  exact ⟨i, hi, he.symm⟩

theorem key_of_map_eq {α : Type} {f : α → Option Nat} {l : List α} {ids : List Nat} (h : l.map f = ids.map some) {i : Nat}
    (hi : i ∈ ids) : ∃ x ∈ l, f x = some i := by
  have : some i ∈ l.map f := h ▸ List.mem_map_of_mem hi
  exact List.mem_map.mp this

/-- the cache lookup is a first-index search; the lemmas below are read off the library's -/
theorem find_eq_findIdx? (st : St) (k : Key) : find st k = st.findIdx? (fun c => c.key = k) := by
  induction st with
  | nil => rfl
  | cons c cs ih => simp [find, List.findIdx?_cons, ih]

theorem find_lt (st : St) (k : Key) (i : Nat) (h : find st k = some i) : i < st.length := by
  rw [find_eq_findIdx?, List.findIdx?_eq_some_iff_getElem] at h
  exact h.1

theorem find_key (st : St) (k : Key) (i : Nat) (h : find st k = some i) : ∃ c, st[i]? = some c ∧ c.key = k := by
  rw [find_eq_findIdx?, List.findIdx?_eq_some_iff_getElem] at h
  obtain ⟨hi, hk, _⟩ := h
  exact ⟨st[i], List.getElem?_eq_getElem hi, of_decide_eq_true hk⟩

theorem find_none_iff (st : St) (k : Key) : find st k = none ↔ k ∉ st.map (·.key) := by
  simp [find_eq_findIdx?, List.findIdx?_eq_none_iff]

theorem find_append_some (st e : St) (k : Key) (i : Nat) (h : find st k = some i) : find (st ++ e) k = some i := by
  rw [find_eq_findIdx?] at h ⊢
  simp [h]

theorem find_append_none (st : St) (c : Cls) (k : Key) (h : find st k = none) :
    find (st ++ [c]) k = if c.key = k then some st.length else none := by
  rw [find_eq_findIdx?] at h ⊢
  simp [h]

theorem find_of_get (st : St) (hnd : (st.map (·.key)).Nodup) : ∀ (i : Nat) (c : Cls), st[i]? = some c → find st c.key = some i := by
  induction st with
  | nil => intro i c h; simp at h
  | cons c0 cs ih =>
    intro i c h
    simp only [List.map_cons, List.nodup_cons] at hnd
    cases i with
    | zero => simp at h; subst h; simp [find]
    | succ i =>
      simp only [List.getElem?_cons_succ] at h
      have hmem : c.key ∈ cs.map (·.key) := List.mem_map.mpr ⟨c, List.mem_of_getElem? h, rfl⟩
      have hne : c0.key ≠ c.key := by intro he; exact hnd.1 (he ▸ hmem)
      simp [find, hne, ih hnd.2 i c h]

/-- keys that can occur in a table: the anonymous intermediate class exists only for Unsigned / Signed -/
def goodKey : Key → Bool
  | .anon _ _ k _ _ => k != .bv
  | _ => true

/-- `parent_cls` of `_TypeQualifier.__getitem__` depends on the wrapped type only through the if-tree l.166-224: vectors
    and the bare `Unsigned` / `Signed` get a parent of their own; for everything else the parent is the qualifier itself,
    one level below the new class -/
theorem wrapped_forms (t : Key) :
    (∀ qk d, qParent qk d t = .root (qroot qk) ∧ rank (.q qk d t) = rank (.root (qroot qk)) + 1) ∨
    (∃ k o w, t = .vec k o w) ∨ t = .root .unsigned ∨ t = .root .signed := by
  cases t with
  | root r =>
    cases r with
    | unsigned => exact Or.inr (Or.inr (Or.inl rfl))
    | signed => exact Or.inr (Or.inr (Or.inr rfl))
    | _ => exact Or.inl fun qk _ => ⟨rfl, by cases qk <;> rfl⟩
  | vec k o w => exact Or.inr (Or.inl ⟨k, o, w, rfl⟩)
  | _ => exact Or.inl fun qk _ => ⟨rfl, by cases qk <;> rfl⟩

theorem baseKeys_q (qk : QKind) (d : Option Dir) (t : Key) :
    baseKeys (.q qk d t) = qParent qk d t :: if qk = .port then [.q .signal none t] else [] := by
  cases qk <;> rfl

theorem qParent_good (qk : QKind) (d : Option Dir) (t : Key) : goodKey (qParent qk d t) = true := by
  rcases wrapped_forms t with h | ⟨k, o, w, rfl⟩ | rfl | rfl
  · rw [(h qk d).1]
    rfl
  · cases k <;> rfl
  · rfl
  · rfl

theorem baseKeys_good (k b : Key) (hb : b ∈ baseKeys k) : goodKey b = true := by
  refine List.all_eq_true.mp ?_ b hb
  cases k with
  | root r => cases r <;> rfl
  | vec k o w => cases k <;> rfl
  | q qk d t =>
    rw [baseKeys_q, List.all_cons, qParent_good]
    split <;> rfl
  | _ => rfl

/-- parameter tuples are unique (one class per tuple) and every class has exactly the bases its tuple
    prescribes, all of them present in the table -/
structure Inv (st : St) : Prop where
  nodup : (st.map (·.key)).Nodup
  bases : ∀ c ∈ st, (baseKeys c.key).map (find st) = c.bases.map some
  /-- the bases of a class were created before it -/
  ordered : ∀ (i : Nat) (c : Cls), st[i]? = some c → ∀ j ∈ c.bases, j < i
  good : ∀ c ∈ st, goodKey c.key = true

theorem map_find_append (st e : St) (bs : List Key) (ids : List Nat)
    (h : bs.map (find st) = ids.map some) : bs.map (find (st ++ e)) = ids.map some := by
  rw [← h]
  apply List.map_congr_left
  intro b hb
  obtain ⟨i, _, hi⟩ := found_of_map_eq h hb
  rw [hi, find_append_some st e b i hi]

/-- a new class whose bases are in the table may be appended -/
theorem Inv.snoc {st : St} (hI : Inv st) {k : Key} {ids : List Nat} (hk : k ∉ st.map (·.key))
    (hb : (baseKeys k).map (find st) = ids.map some) (hg : goodKey k = true) : Inv (st ++ [⟨k, ids⟩]) := by
  constructor
  · simpa [List.nodup_append, hI.nodup] using hk
  · intro c hc
    refine map_find_append _ _ _ _ ((List.mem_append.mp hc).elim (hI.bases c) fun hc => ?_)
    rw [List.mem_singleton.mp hc]
    exact hb
  · intro i c hc j hj
    rw [List.getElem?_append] at hc
    split at hc
    · exact hI.ordered i c hc j hj
    · next hi =>
      rw [List.mem_singleton.mp (List.mem_of_getElem? hc)] at hj
      obtain ⟨b, _, hfb⟩ := key_of_map_eq hb hj
      exact Nat.lt_of_lt_of_le (find_lt _ b j hfb) (Nat.le_of_not_lt hi)
  · intro c hc
    refine (List.mem_append.mp hc).elim (hI.good c) fun hc => ?_
    rw [List.mem_singleton.mp hc]
    exact hg

-- the rank comparisons are between numerals once the shape is fixed; `Nat.le_of_ble_eq_true rfl` evaluates them
-- (`decide` does not apply: the goals still mention the free width / order / direction)
theorem rank_base_lt (k b : Key) (hb : b ∈ baseKeys k) : rank b < rank k := by
  cases k with
  | root r =>
    revert b
    cases r <;> decide
  | vec k o w => cases k <;> simp [baseKeys] at hb <;> rcases hb with rfl | rfl <;> simp [rank]
  | arr e n => simp [baseKeys] at hb; subst hb; simp [rank]
  | anon qk d k o w =>
    simp [baseKeys] at hb
    rcases hb with rfl | rfl <;> cases qk <;> cases k <;> simp [rank, kroot]
  | q qk d t =>
    rw [baseKeys_q, List.mem_cons] at hb
    rcases hb with rfl | hb
    · rcases wrapped_forms t with h | ⟨k, o, w, rfl⟩ | rfl | rfl
      · rw [(h qk d).1, (h qk d).2]
        exact Nat.lt_succ_self _
      · cases qk <;> cases k <;> exact Nat.le_of_ble_eq_true rfl
      · cases qk <;> exact Nat.le_of_ble_eq_true rfl
      · cases qk <;> exact Nat.le_of_ble_eq_true rfl
    · split at hb
      · next hq =>
        rw [List.mem_singleton.mp hb, hq]
        simp only [rank]
        omega
      · cases hb

theorem rank_lt_fuel (k : Key) : rank k < fuel := by
  cases k with
  | root r => cases r <;> decide
  | vec k o w => cases k <;> exact Nat.le_of_ble_eq_true rfl
  | arr e n => exact Nat.le_of_ble_eq_true rfl
  | anon qk d k o w => cases qk <;> exact Nat.le_of_ble_eq_true rfl
  | q qk d t =>
    rcases wrapped_forms t with h | ⟨k, o, w, rfl⟩ | rfl | rfl
    · rw [(h qk d).2]
      cases qk <;> decide
    · cases qk <;> cases k <;> exact Nat.le_of_ble_eq_true rfl
    · cases qk <;> exact Nat.le_of_ble_eq_true rfl
    · cases qk <;> exact Nat.le_of_ble_eq_true rfl

def EnsSpec (ens : St → Key → Option (St × Nat)) (bound : Nat) : Prop :=
  ∀ st k, Inv st → rank k < bound → goodKey k = true →
    ∃ ext i, ens st k = some (st ++ ext, i) ∧ Inv (st ++ ext) ∧ find (st ++ ext) k = some i ∧
      ∀ c ∈ ext, rank c.key ≤ rank k

/-- creating a list of bases all of rank below `r`: only classes of rank below `r` are added -/
theorem ensureAll_spec (ens : St → Key → Option (St × Nat)) (bound : Nat) (he : EnsSpec ens bound) (r : Nat) (hr : r ≤ bound) :
    ∀ (bs : List Key) (st : St), Inv st → (∀ b ∈ bs, rank b < r) → (∀ b ∈ bs, goodKey b = true) →
      ∃ ext ids, ensureAll ens st bs = some (st ++ ext, ids) ∧ Inv (st ++ ext) ∧
        bs.map (find (st ++ ext)) = ids.map some ∧ ∀ c ∈ ext, rank c.key < r := by
  intro bs
  induction bs with
  | nil => intro st hI _ _; exact ⟨[], [], by simp [ensureAll], by simpa using hI, by simp, by simp⟩
  | cons b bs ih =>
    intro st hI hb hg
    have hbr := hb b (by simp)
    obtain ⟨e1, i, h1, hI1, hf1, hr1⟩ := he st b hI (Nat.lt_of_lt_of_le hbr hr) (hg b (by simp))
    obtain ⟨e2, ids, h2, hI2, hf2, hr2⟩ := ih (st ++ e1) hI1 (fun b' hb' => hb b' (by simp [hb'])) (fun b' hb' => hg b' (by simp [hb']))
    refine ⟨e1 ++ e2, i :: ids, ?_, ?_, ?_, ?_⟩
    · simp [ensureAll, h1, h2, List.append_assoc]
    · simpa [List.append_assoc] using hI2
    · simp only [List.map_cons, ← List.append_assoc, hf2, find_append_some _ e2 b i hf1]
    · intro c hc
      rcases List.mem_append.mp hc with hc | hc
      · exact Nat.lt_of_le_of_lt (hr1 c hc) hbr
      · exact hr2 c hc

theorem ensure_spec : ∀ f, EnsSpec (ensure f) f := by
  intro f
  induction f with
  | zero => intro st k _ h; omega
  | succ f ih =>
    intro st k hI hr hgk
    simp only [ensure]
    cases hfind : find st k with
    | some i => exact ⟨[], i, by simp, by simpa using hI, by simpa using hfind, by simp⟩
    | none =>
      obtain ⟨ext, ids, h1, hI1, hf1, hr1⟩ :=
        ensureAll_spec (ensure f) f ih (rank k) (Nat.le_of_lt_succ hr) (baseKeys k) st hI (rank_base_lt k) (baseKeys_good k)
      simp only [h1]
      -- `k` is not among the classes created for its bases: they have smaller rank
      have hnotin : k ∉ (st ++ ext).map (·.key) := by
        simp only [List.map_append, List.mem_append, not_or]
        refine ⟨(find_none_iff st k).mp hfind, ?_⟩
        intro hk
        obtain ⟨c, hc, hck⟩ := List.mem_map.mp hk
        exact Nat.lt_irrefl _ (hck ▸ hr1 c hc)
      have hfn : find (st ++ ext) k = none := (find_none_iff _ k).mpr hnotin
      refine ⟨ext ++ [⟨k, ids⟩], (st ++ ext).length, by simp [List.append_assoc], ?_, ?_, ?_⟩
      · rw [← List.append_assoc]
        exact hI1.snoc hnotin hf1 hgk
      · rw [← List.append_assoc, find_append_none _ _ _ hfn]; simp
      · intro c hc
        rcases List.mem_append.mp hc with hc | hc
        · exact Nat.le_of_lt (hr1 c hc)
        · rw [List.mem_singleton.mp hc]
          exact Nat.le_refl _

theorem inv_nil : Inv [] := ⟨by simp, by simp, by simp, by simp⟩

theorem ens_spec (st : St) (k : Key) (hI : Inv st) (hg : goodKey k = true) :
    ∃ ext i, ens st k = (st ++ ext, some i) ∧ Inv (st ++ ext) ∧ find (st ++ ext) k = some i := by
  obtain ⟨ext, i, h, hI', hf, _⟩ := ensure_spec fuel st k hI (rank_lt_fuel k) hg
  exact ⟨ext, i, by simp [ens, h], hI', hf⟩

/-- the subscript shared by `Array[T, n]` and `Q[T]`: once the argument `T` has been evaluated (result `r`), the class
    is looked up or created if the guard `c` holds -/
def subscript (r : St × Option Nat) (c : Bool) (k : Key) : St × Option Nat :=
  match r with
  | (st1, none) => (st1, none)
  | (st1, some _) => if c then ens st1 k else (st1, none)

theorem evalReq_arr (st : St) (e : Key) (n : Nat) :
    evalReq st (.arr e n) = subscript (evalReq st e) (isPrim e) (.arr e n) := rfl

theorem evalReq_q (st : St) (qk : QKind) (d : Option Dir) (t : Key) :
    evalReq st (.q qk d t) = subscript (evalReq st t) (dirOk qk d) (.q qk d t) := rfl

theorem subscript_spec (st e1 : St) (r : Option Nat) (c : Bool) (k : Key) (hI1 : Inv (st ++ e1)) (hg : goodKey k = true) :
    ∃ ext, (subscript (st ++ e1, r) c k).1 = st ++ ext ∧ Inv (st ++ ext) ∧
      ∀ i, (subscript (st ++ e1, r) c k).2 = some i → find (st ++ ext) k = some i := by
  cases r with
  | none => exact ⟨e1, rfl, hI1, by simp [subscript]⟩
  | some j =>
    cases c with
    | false => exact ⟨e1, rfl, hI1, by simp [subscript]⟩
    | true =>
      obtain ⟨e2, i, h, hI', hf⟩ := ens_spec (st ++ e1) k hI1 hg
      refine ⟨e1 ++ e2, by simp [subscript, h], by simpa using hI', ?_⟩
      intro i' hi'
      simp only [subscript, h, if_true, Option.some.injEq] at hi'
      subst hi'
      simpa using hf

theorem evalReq_spec : ∀ (k : Key) (st : St), Inv st →
    ∃ ext, (evalReq st k).1 = st ++ ext ∧ Inv (st ++ ext) ∧
      ∀ i, (evalReq st k).2 = some i → find (st ++ ext) k = some i := by
  intro k
  induction k with
  | root r => intro st hI; exact ⟨[], by simp [evalReq], by simpa using hI, by simp [evalReq]⟩
  | vec k o w =>
    intro st hI
    simp only [evalReq]
    split
    · exact ⟨[], by simp, by simpa using hI, by simp⟩
    · obtain ⟨ext, i, h, hI', hf⟩ := ens_spec st (.vec k o w) hI rfl
      exact ⟨ext, by simp [h], hI', by simp [h, hf]⟩
  | anon a b c d e => intro st hI; exact ⟨[], by simp [evalReq], by simpa using hI, by simp [evalReq]⟩
  | arr e n ih =>
    intro st hI
    obtain ⟨e1, h1, hI1, _⟩ := ih st hI
    rw [evalReq_arr, ← Prod.eta (evalReq st e), h1]
    exact subscript_spec st e1 _ _ _ hI1 rfl
  | q qk d t ih =>
    intro st hI
    obtain ⟨e1, h1, hI1, _⟩ := ih st hI
    rw [evalReq_q, ← Prod.eta (evalReq st t), h1]
    exact subscript_spec st e1 _ _ _ hI1 rfl

/-- every result of a history is the position of its parameter tuple in the FINAL table -/
theorem runHist_spec : ∀ (h : List Key) (st : St), Inv st →
    ∃ ext, (runHist st h).1 = st ++ ext ∧ Inv (st ++ ext) ∧ (runHist st h).2.length = h.length ∧
      ∀ (n : Nat) (k : Key) (i : Nat), h[n]? = some k → (runHist st h).2[n]? = some (some i) → find (st ++ ext) k = some i := by
  intro h
  induction h with
  | nil => intro st hI; exact ⟨[], by simp [runHist], by simpa using hI, by simp [runHist], by simp⟩
  | cons k ks ih =>
    intro st hI
    obtain ⟨e1, h1, hI1, hf1⟩ := evalReq_spec k st hI
    obtain ⟨e2, h2, hI2, hl2, hf2⟩ := ih (st ++ e1) hI1
    simp only [runHist, h1]
    refine ⟨e1 ++ e2, by simp [h2, List.append_assoc], by simpa [List.append_assoc] using hI2, by simp [hl2], ?_⟩
    intro n k' i hk hi
    cases n with
    | zero =>
      simp at hk hi; subst hk
      rw [← List.append_assoc]
      exact find_append_some _ e2 _ _ (hf1 i hi)
    | succ n =>
      simp only [List.getElem?_cons_succ] at hk hi
      simpa [List.append_assoc] using hf2 n k' i hk hi

theorem basesOf_eq (st : St) (hI : Inv st) (k : Key) (a : Nat) (h : find st k = some a) :
    (baseKeys k).map (find st) = (basesOf st a).map some := by
  obtain ⟨c, hc, hk⟩ := find_key st k a h
  simp only [basesOf, hc]
  rw [← hk]
  exact hI.bases c (List.mem_of_getElem? hc)

theorem find_inj (st : St) (k1 k2 : Key) (i : Nat) (h1 : find st k1 = some i) (h2 : find st k2 = some i) : k1 = k2 := by
  obtain ⟨c1, hc1, rfl⟩ := find_key st k1 i h1
  obtain ⟨c2, hc2, rfl⟩ := find_key st k2 i h2
  rw [Option.some.inj (hc1.symm.trans hc2)]

theorem reach_iff (st : St) (hI : Inv st) (b : Nat) : ∀ (f : Nat) (k : Key) (a : Nat), find st k = some a →
    (reach f st a b = true ↔ ∃ k' ∈ anc f k, find st k' = some b) := by
  intro f
  induction f with
  | zero =>
    intro k a h
    simp only [reach, anc, beq_iff_eq, List.mem_singleton, exists_eq_left, h, Option.some.injEq]
  | succ f ih =>
    intro k a h
    have hb := basesOf_eq st hI k a h
    simp only [reach, anc, Bool.or_eq_true, beq_iff_eq, List.any_eq_true, List.mem_cons, List.mem_flatMap,
      exists_eq_or_imp, h, Option.some.injEq]
    constructor
    · rintro (h0 | ⟨c, hc, hr⟩)
      · exact Or.inl h0
      · obtain ⟨bk, hbk, hfb⟩ := key_of_map_eq hb hc
        obtain ⟨k', hk', hf'⟩ := (ih bk c hfb).mp hr
        exact Or.inr ⟨k', ⟨bk, hbk, hk'⟩, hf'⟩
    · rintro (h0 | ⟨k', ⟨bk, hbk, hk'⟩, hf'⟩)
      · exact Or.inl h0
      · obtain ⟨c, hc, hfc⟩ := found_of_map_eq hb hbk
        exact Or.inr ⟨c, hc, (ih bk c hfc).mpr ⟨k', hk', hf'⟩⟩

theorem rank_zero_bases (k : Key) (h : rank k = 0) : baseKeys k = [] :=
  List.eq_nil_iff_forall_not_mem.mpr fun b hb => by have := rank_base_lt k b hb; omega

theorem anc_stable : ∀ (f g : Nat) (k : Key), rank k ≤ f → rank k ≤ g → anc f k = anc g k := by
  intro f
  induction f with
  | zero =>
    intro g k hf _
    have hb := rank_zero_bases k (by omega)
    cases g <;> simp [anc, hb]
  | succ f ih =>
    intro g k hf hg
    cases g with
    | zero =>
      have hb := rank_zero_bases k (by omega)
      simp [anc, hb]
    | succ g =>
      simp only [anc, List.flatMap_def]
      congr 2
      exact List.map_congr_left fun b hb => by have := rank_base_lt k b hb; exact ih g b (by omega) (by omega)

theorem issub_iff (st : St) (hI : Inv st) (hlen : fuel ≤ st.length) (k1 k2 : Key) (a b : Nat)
    (h1 : find st k1 = some a) (h2 : find st k2 = some b) :
    issub st a b = true ↔ k2 ∈ anc (rank k1) k1 := by
  unfold issub
  rw [reach_iff st hI b st.length k1 a h1]
  have hr := rank_lt_fuel k1
  rw [anc_stable st.length (rank k1) k1 (by omega) (Nat.le_refl _)]
  constructor
  · rintro ⟨k', hk', hf'⟩
    rwa [find_inj st k2 k' b h2 hf']
  · intro h; exact ⟨k2, h, h2⟩

end CohdlVerif.C13
