import CohdlVerif.Lemmas.C03Lemmas

/-! C03 - concurrent contexts: the settled state of an acyclic set of continuous assignments exists (evaluation in a
    topological order reaches it), is unique, and does not depend on the order of evaluation -/
namespace CohdlVerif.C03

theorem St.eq_of_fields {s t : St} (hs : s.sig = t.sig) (hv : s.var = t.var) (hp : s.pend = t.pend) (ht : s.tmp = t.tmp) :
    s = t := by
  cases s
  cases t
  simp only [St.mk.injEq]
  exact ⟨hs, hv, hp, ht⟩

/-- `s1` is a settled state of the system `cs` over the base state `s0`: nothing but the driven locations differs from
    `s0`, and every driven location holds its expression evaluated ON `s1` (no further event) -/
structure Sol (cs : List CA) (s0 s1 : St) : Prop where
  var : s1.var = s0.var
  tmp : s1.tmp = s0.tmp
  pend : s1.pend = s0.pend
  frame : ∀ l, (∀ c ∈ cs, c.covers l = false) → s1.sig l = s0.sig l
  fix : ∀ c ∈ cs, ∀ l, c.covers l = true → s1.sig l = (eval c.e s1).testBit (l.2.2 - c.lo)

theorem covers_obj (c : CA) (l : Loc) (h : c.covers l = true) : l.1 = c.obj := by
  simp only [CA.covers, inRange, Bool.and_eq_true, beq_iff_eq] at h
  exact h.1.1.1

theorem not_covers_of_obj (c : CA) (l : Loc) (h : l.1 ≠ c.obj) : c.covers l = false :=
  Bool.eq_false_iff.mpr (fun hc => h (covers_obj c l hc))

theorem mem_targets {cs : List CA} {c : CA} (h : c ∈ cs) : c.obj ∈ targets cs :=
  List.mem_map_of_mem h

theorem targets_append (a b : List CA) : targets (a ++ b) = targets a ++ targets b :=
  List.map_append

theorem readsAny_false {e : Expr} {os : List Nat} (h : readsAny e os = false) {o : Nat} (ho : o ∈ os) :
    readsSig e o = false := by
  rw [readsAny, List.any_eq_false] at h
  exact Bool.eq_false_iff.mpr (h o ho)

theorem wellOrdered_cons {c : CA} {rest : List CA} (h : wellOrdered (c :: rest) = true) :
    readsAny c.e (c.obj :: targets rest) = false ∧ c.obj ∉ targets rest ∧ wellOrdered rest = true := by
  simp only [wellOrdered, Bool.and_eq_true, Bool.not_eq_true', List.contains_eq_mem, decide_eq_false_iff_not] at h
  exact ⟨h.1.1, h.1.2, h.2⟩

theorem wellOrdered_append (pre suf : List CA) (h : wellOrdered (pre ++ suf) = true) : wellOrdered suf = true := by
  induction pre with
  | nil => exact h
  | cons p pre ih => exact ih (wellOrdered_cons h).2.2

theorem drive_sig (c : CA) (s : St) (l : Loc) :
    (drive c s).sig l = if c.covers l then (eval c.e s).testBit (l.2.2 - c.lo) else s.sig l := by
  unfold drive writeBits CA.covers
  rfl

theorem drive_eq_self {c : CA} {s : St} (h : ∀ l, c.covers l = true → s.sig l = (eval c.e s).testBit (l.2.2 - c.lo)) :
    drive c s = s := by
  refine St.eq_of_fields (funext fun l => ?_) rfl rfl rfl
  rw [drive_sig]
  split
  · exact (h l ‹_›).symm
  · rfl

/-- the head of a well-ordered list reads no driven object, so its value is the same in every state that differs from
    the base state on driven locations only -/
theorem eval_head {c : CA} {rest : List CA} (hr : readsAny c.e (c.obj :: targets rest) = false) {s0 s1 : St}
    (hv : s1.var = s0.var) (ht : s1.tmp = s0.tmp)
    (hf : ∀ l, (∀ c' ∈ c :: rest, c'.covers l = false) → s1.sig l = s0.sig l) : eval c.e s1 = eval c.e s0 := by
  refine eval_agree c.e s1 s0 hv ht (fun l hl => hf l (fun c' hc' => not_covers_of_obj c' l (fun heq => ?_)))
  have hm : l.1 ∈ c.obj :: targets rest := heq ▸ mem_targets hc'
  rw [readsAny_false hr hm] at hl
  cases hl

theorem sol_cons {c : CA} {rest : List CA} (h : wellOrdered (c :: rest) = true) {s s1 : St} :
    Sol (c :: rest) s s1 ↔ Sol rest (drive c s) s1 := by
  obtain ⟨hr, hd, -⟩ := wellOrdered_cons h
  have hrest : ∀ l, c.covers l = true → ∀ c' ∈ rest, c'.covers l = false := fun l hl c' hc' =>
    not_covers_of_obj c' l (fun heq => hd ((covers_obj c l hl).symm.trans heq ▸ mem_targets hc'))
  constructor
  · intro S
    refine ⟨S.var, S.tmp, S.pend, fun l hl => ?_, fun c' hc' => S.fix c' (List.mem_cons_of_mem _ hc')⟩
    rw [drive_sig]
    cases hc : c.covers l with
    | true => rw [S.fix c (List.mem_cons_self ..) l hc, eval_head hr S.var S.tmp S.frame, if_pos rfl]
    | false => exact S.frame l (List.forall_mem_cons.mpr ⟨hc, hl⟩)
  · intro S
    have hf : ∀ l, (∀ c' ∈ c :: rest, c'.covers l = false) → s1.sig l = s.sig l := fun l hl => by
      rw [S.frame l (List.forall_mem_cons.mp hl).2, drive_sig, (List.forall_mem_cons.mp hl).1]
      rfl
    refine ⟨S.var, S.tmp, S.pend, hf, fun c' hc' l hl => ?_⟩
    rcases List.mem_cons.mp hc' with rfl | hc'
    · rw [S.frame l (hrest l hl), drive_sig, hl, eval_head (s0 := s) hr S.var S.tmp hf, if_pos rfl]
    · exact S.fix c' hc' l hl

/-- the settled state of an acyclic system exists, is unique, and is reached by evaluation in the given order -/
theorem sol_iff (cs : List CA) (s s1 : St) (h : wellOrdered cs = true) : Sol cs s s1 ↔ s1 = settleOrder cs s := by
  induction cs generalizing s with
  | nil =>
    constructor
    · intro S
      exact St.eq_of_fields (funext fun l => S.frame l (fun _ hc => nomatch hc)) S.var S.pend S.tmp
    · rintro rfl
      exact ⟨rfl, rfl, rfl, fun _ _ => rfl, fun _ hc => nomatch hc⟩
  | cons c rest ih => exact (sol_cons h).trans (ih (drive c s) (wellOrdered_cons h).2.2)

theorem Sol_of_mem_iff {cs cs' : List CA} (h : ∀ c, c ∈ cs ↔ c ∈ cs') {s s1 : St} (S : Sol cs s s1) : Sol cs' s s1 :=
  ⟨S.var, S.tmp, S.pend, fun l hl => S.frame l (fun c hc => hl c ((h c).mp hc)),
   fun c hc l hl => S.fix c ((h c).mpr hc) l hl⟩

theorem settleOrder_perm {cs cs' : List CA} (h : ∀ c, c ∈ cs ↔ c ∈ cs') (w : wellOrdered cs = true)
    (w' : wellOrdered cs' = true) (s : St) : settleOrder cs s = settleOrder cs' s :=
  (sol_iff cs' s _ w').mp (Sol_of_mem_iff h ((sol_iff cs s _ w).mpr rfl))

theorem pickReady_mem {all : List Nat} {cs : List CA} {c : CA} {rest : List CA}
    (h : pickReady all cs = some (c, rest)) (x : CA) : x ∈ cs ↔ (x = c ∨ x ∈ rest) := by
  induction cs generalizing c rest with
  | nil => cases h
  | cons d cs ih =>
    simp only [pickReady] at h
    split at h
    · cases h
      exact List.mem_cons
    · obtain ⟨r, hr, he⟩ := Option.map_eq_some_iff.mp h
      cases he
      rw [List.mem_cons, List.mem_cons, ih hr]
      exact or_left_comm

theorem topoSort_mem {n : Nat} {cs ord : List CA} (h : topoSort n cs = some ord) (x : CA) : x ∈ ord ↔ x ∈ cs := by
  induction n generalizing cs ord with
  | zero =>
    cases cs with
    | nil =>
      cases h
      rfl
    | cons c cs => cases h
  | succ n ih =>
    cases cs with
    | nil =>
      cases h
      rfl
    | cons c cs =>
      simp only [topoSort] at h
      split at h
      · cases h
      · next r hr =>
        obtain ⟨o, ho, rfl⟩ := Option.map_eq_some_iff.mp h
        rw [pickReady_mem hr x, List.mem_cons, ih ho]

theorem settle_eq_some {cs : List CA} {s s1 : St} (h : settle cs s = some s1) :
    ∃ ord, (∀ x, x ∈ ord ↔ x ∈ cs) ∧ wellOrdered ord = true ∧ s1 = settleOrder ord s := by
  simp only [settle] at h
  split at h
  · next ord ho =>
    split at h
    · next hw => exact ⟨ord, topoSort_mem ho, hw, (Option.some.inj h).symm⟩
    · cases h
  · cases h

end CohdlVerif.C03
