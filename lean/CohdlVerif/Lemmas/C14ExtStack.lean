import CohdlVerif.Lemmas.FifoLemmas

/-! C14 extension - helper lemmas: `std.Stack` (both modes) refines the abstract `Lifo` -/
namespace CohdlVerif.C14

/-- every count `0..N` is representable in the counter type `Unsigned.upto(N)` -/
theorem lt_pow_stackW (N : Nat) : N < 2 ^ stackW N := by
  unfold stackW uptoWidth bitLength
  by_cases h : N = 0
  · simp [h]
  · simp only [h, if_false]
    exact Nat.lt_log2_self

theorem stackNext_no (N i : Nat) (h : i < N) : stackNext .noOverflow N i = i + 1 := by
  have := lt_pow_stackW N
  simp only [stackNext]
  exact Nat.mod_eq_of_lt (by omega)

theorem wrap_pred (W i : Nat) (h1 : 1 ≤ i) (h2 : i < W) : (i + W - 1) % W = i - 1 := by
  have : i + W - 1 = (i - 1) + W := by omega
  rw [this, Nat.add_mod_right]
  exact Nat.mod_eq_of_lt (by omega)

theorem stackPrev_no (N i : Nat) (h1 : 1 ≤ i) (h : i ≤ N) : stackPrev .noOverflow N i = i - 1 := by
  have := lt_pow_stackW N
  simp only [stackPrev]
  exact wrap_pred _ i h1 (by omega)

theorem stackNext_drop (N i : Nat) (h : i < N) :
    stackNext .dropOld N i = if i + 1 < N then i + 1 else 0 := by
  have := lt_pow_stackW N
  simp only [stackNext]
  by_cases h2 : i + 1 < N
  · have : i ≠ N - 1 := by omega
    simp only [this, ne_eq, not_false_eq_true, if_true, h2]
    exact Nat.mod_eq_of_lt (by omega)
  · have : i = N - 1 := by omega
    simp [this]; omega

theorem stackPrev_drop (N i : Nat) (h : i < N) :
    stackPrev .dropOld N i = if i = 0 then N - 1 else i - 1 := by
  have := lt_pow_stackW N
  simp only [stackPrev]
  by_cases h2 : i = 0
  · simp [h2]
  · simp only [h2, if_false]
    exact wrap_pred _ i (by omega) (by omega)

/-! ## NO_OVERFLOW: `mem[0 .. idx-1]` is the stack, newest element at `idx-1` -/

structure SRelN (N : Nat) (s : Stack) (a : Lifo) : Prop where
  len : s.mem.length = N
  idx_eq : s.idx = a.st.length
  cap : a.st.length ≤ N
  elems : ∀ j, j < a.st.length → s.mem[s.idx - 1 - j]? = some a.st[j]?
  out_eq : s.dout = a.out

theorem srelN_init (N : Nat) : SRelN N (Stack.init N) ⟨[], none⟩ :=
  ⟨List.length_replicate, rfl, Nat.zero_le N, fun _ hj => absurd hj (Nat.not_lt_zero _), rfl⟩

theorem SRelN.front {N : Nat} {s : Stack} {a : Lifo} (h : SRelN N s a) (hq : a.st ≠ []) :
    s.front .noOverflow N = a.st.head? := by
  have hpos := List.length_pos_iff.mpr hq
  have := h.idx_eq
  have := h.cap
  rw [Stack.front, stackPrev_no N s.idx (by omega) (by omega)]
  exact getD_eq_head? (h.elems 0 hpos)

theorem srelN_step (N : Nat) (s : Stack) (a : Lifo) (op : SOp) (hR : SRelN N s a)
    (hl : a.legal .noOverflow N op = true) :
    SRelN N (s.step .noOverflow N op) (a.step .noOverflow N op) := by
  have ⟨hlen, hidx, hcap, hel, hout⟩ := hR
  cases op with
  | idle => exact hR
  | push v =>
    have hl : a.st.length < N := of_decide_eq_true hl
    have hn : stackNext .noOverflow N s.idx = s.idx + 1 := stackNext_no N s.idx (by omega)
    refine ⟨List.length_set.trans hlen, hn.trans (congrArg (· + 1) hidx), hl, ?_, hout⟩
    intro j hj
    simp only [Stack.step, Lifo.step, hn, Nat.add_sub_cancel]
    cases j with
    | zero => exact List.getElem?_set_self (by omega)
    | succ j =>
      have hj : j < a.st.length := Nat.lt_of_succ_lt_succ hj
      rw [List.getElem?_cons_succ, Nat.add_comm j 1, ← Nat.sub_sub, List.getElem?_set_ne (by omega)]
      exact hel j hj
  | pop =>
    have hq : a.st ≠ [] := of_decide_eq_true hl
    have hpos := List.length_pos_iff.mpr hq
    have hp : stackPrev .noOverflow N s.idx = s.idx - 1 := stackPrev_no N s.idx (by omega) (by omega)
    refine ⟨hlen, ?_, ?_, ?_, hR.front hq⟩
    · show stackPrev .noOverflow N s.idx = a.st.tail.length
      rw [hp, hidx, List.length_tail]
    · simp only [Lifo.step, List.length_tail]
      omega
    · intro j hj
      simp only [Lifo.step, List.length_tail] at hj
      show s.mem[stackPrev .noOverflow N s.idx - 1 - j]? = some a.st.tail[j]?
      rw [hp, List.getElem?_tail, Nat.sub_sub _ 1 j, Nat.add_comm 1 j]
      exact hel (j + 1) (by omega)
  | reset => exact ⟨hlen, rfl, Nat.zero_le N, fun _ hj => absurd hj (Nat.not_lt_zero _), hout⟩

/-! ## DROP_OLD: ring buffer, `idx` = next write position, the `cnt` newest elements are valid -/

/-- position of the j-th newest element -/
def dpos (N idx j : Nat) : Nat := if j + 1 ≤ idx then idx - 1 - j else idx + N - 1 - j

theorem dpos_ne {N idx j : Nat} (hj : j + 1 < N) : idx ≠ dpos N idx j := by
  rw [dpos]
  split <;> omega

section dpos
variable {N idx j : Nat} (h : idx < N)
include h

theorem stackNext_drop_lt : stackNext .dropOld N idx < N := by
  rw [stackNext_drop N idx h]
  split <;> omega

theorem stackPrev_drop_lt : stackPrev .dropOld N idx < N := by
  rw [stackPrev_drop N idx h]
  split <;> omega

theorem stackNext_prev_drop : stackNext .dropOld N (stackPrev .dropOld N idx) = idx := by
  rw [stackNext_drop N _ (stackPrev_drop_lt h), stackPrev_drop N idx h]
  split <;> split <;> omega

theorem dpos_next_zero : dpos N (stackNext .dropOld N idx) 0 = idx := by
  rw [stackNext_drop N idx h, dpos]
  split <;> split <;> omega

/-- the newest `N - 1` elements lie off the write position and keep their cells when it advances -/
theorem dpos_next_succ (hj : j + 1 < N) : dpos N (stackNext .dropOld N idx) (j + 1) = dpos N idx j := by
  rw [stackNext_drop N idx h]
  by_cases h0 : idx + 1 < N
  · rw [if_pos h0, dpos, dpos]
    by_cases hc : j + 1 ≤ idx
    · rw [if_pos (by omega), if_pos hc]; omega
    · rw [if_neg (by omega), if_neg hc]; omega
  · -- the write position wraps to 0: every valid element now lies "behind" it
    rw [if_neg h0, dpos, dpos, if_neg (by omega), if_pos (by omega)]
    omega

-- stepping the write position back undoes stepping it on, so the two facts above can be read backwards
theorem dpos_zero : dpos N idx 0 = stackPrev .dropOld N idx := by
  have := dpos_next_zero (stackPrev_drop_lt h)
  rwa [stackNext_prev_drop h] at this

theorem dpos_prev (hj : j + 1 < N) : dpos N (stackPrev .dropOld N idx) j = dpos N idx (j + 1) := by
  rw [← dpos_next_succ (stackPrev_drop_lt h) hj, stackNext_prev_drop h]

end dpos

structure SRelD (N : Nat) (s : Stack) (a : Lifo) : Prop where
  len : s.mem.length = N
  idx_lt : s.idx < N
  cnt_eq : s.cnt = a.st.length
  cap : a.st.length ≤ N
  elems : ∀ j, j < a.st.length → s.mem[dpos N s.idx j]? = some a.st[j]?
  out_eq : s.dout = a.out

theorem srelD_init (N : Nat) (hN : 1 ≤ N) : SRelD N (Stack.init N) ⟨[], none⟩ :=
  ⟨List.length_replicate, hN, rfl, Nat.zero_le N, fun _ hj => absurd hj (Nat.not_lt_zero _), rfl⟩

theorem SRelD.front {N : Nat} {s : Stack} {a : Lifo} (h : SRelD N s a) (hq : a.st ≠ []) :
    s.front .dropOld N = a.st.head? := by
  rw [Stack.front, ← dpos_zero h.idx_lt]
  exact getD_eq_head? (h.elems 0 (List.length_pos_iff.mpr hq))

theorem srelD_step (N : Nat) (s : Stack) (a : Lifo) (op : SOp) (hR : SRelD N s a)
    (hl : a.legal .dropOld N op = true) :
    SRelD N (s.step .dropOld N op) (a.step .dropOld N op) := by
  have ⟨hlen, hidx, hcnt, hcap, hel, hout⟩ := hR
  have hw := lt_pow_stackW N
  cases op with
  | idle => exact hR
  | push v =>
    refine ⟨List.length_set.trans hlen, stackNext_drop_lt hidx, ?_, ?_, ?_, hout⟩
    · simp only [Stack.step, Lifo.step, List.length_take, List.length_cons]
      split
      · omega
      · rw [Nat.mod_eq_of_lt (by omega)]
        omega
    · simp only [Lifo.step, List.length_take]
      omega
    · intro j hj
      simp only [Lifo.step, List.length_take, List.length_cons] at hj
      simp only [Stack.step, Lifo.step, List.getElem?_take_of_lt (show j < N by omega)]
      cases j with
      | zero =>
        rw [dpos_next_zero hidx]
        exact List.getElem?_set_self (by omega)
      | succ j =>
        rw [dpos_next_succ hidx (by omega), List.getElem?_set_ne (dpos_ne (by omega))]
        exact hel j (by omega)
  | pop =>
    have hq : a.st ≠ [] := of_decide_eq_true hl
    have hpos := List.length_pos_iff.mpr hq
    refine ⟨hlen, stackPrev_drop_lt hidx, ?_, ?_, ?_, hR.front hq⟩
    · simp only [Stack.step, Lifo.step, List.length_tail]
      rw [wrap_pred _ s.cnt (by omega) (by omega), hcnt]
    · simp only [Lifo.step, List.length_tail]
      omega
    · intro j hj
      simp only [Lifo.step, List.length_tail] at hj
      simp only [Stack.step, Lifo.step, List.getElem?_tail]
      rw [dpos_prev hidx (by omega)]
      exact hel (j + 1) (by omega)
  | reset =>
    exact ⟨hlen, Nat.lt_of_le_of_lt (Nat.zero_le _) hidx, rfl, Nat.zero_le N,
      fun _ hj => absurd hj (Nat.not_lt_zero _), hout⟩

/-! ## both modes -/

def SRel (m : Mode) (N : Nat) (s : Stack) (a : Lifo) : Prop :=
  match m with
  | .noOverflow => SRelN N s a
  | .dropOld => SRelD N s a

def runS (m : Mode) (N : Nat) : Stack → List SOp → Stack := List.foldl (Stack.step m N)
def runL (m : Mode) (N : Nat) : Lifo → List SOp → Lifo := List.foldl (Lifo.step m N)

/-- every prefix of the operation sequence respects the documented preconditions
    (NO_OVERFLOW: no push to a full stack; both modes: no pop from an empty stack) -/
def legalSeqS (m : Mode) (N : Nat) : Lifo → List SOp → Prop
  | _, [] => True
  | a, op :: ops => a.legal m N op = true ∧ legalSeqS m N (a.step m N op) ops

theorem srel_step (m : Mode) (N : Nat) (s : Stack) (a : Lifo) (op : SOp) (hR : SRel m N s a)
    (hl : a.legal m N op = true) : SRel m N (s.step m N op) (a.step m N op) := by
  cases m with
  | noOverflow => exact srelN_step N s a op hR hl
  | dropOld => exact srelD_step N s a op hR hl

end CohdlVerif.C14
