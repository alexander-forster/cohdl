import CohdlVerif.Lemmas.C01WhileStruct
import CohdlVerif.Lemmas.C01Sim

/-! C01 - the simulation claim for `while`. -/
namespace CohdlVerif.C01

variable {σ : Type} (act : Nat → σ → σ) (cond : Nat → σ → Bool)
variable (prog : Stmt) (Hf : Nat → Blk) (E : Nat → σ → σ × Option Nat) (Rf : Nat → Nat) (Sf : List Nat)

/-- facts about the state after the whole loop statement has been translated -/
structure WEnd (cc : Option Nat) (b k : Stmt) (O : List Nat) (s : CSt) (Hf : Nat → Blk) (P' : Nat → Prop) : Prop where
  Tk : Step (wSX cc b O s) (wOk cc b O s) (compile k (wOk cc b O s) (wSX cc b O s)).2 (compile k (wOk cc b O s) (wSX cc b O s)).1
  AX : (wSX cc b O s).atStart = false
  hix : Inv (wSX cc b O s) (wOk cc b O s)
  LX : SameLists (wS4 b O s) (wSX cc b O s)
  n5 : (wS4 b O s).next ≤ (wCl cc b O s).2.next
  nX : (wCl cc b O s).2.next ≤ (wSX cc b O s).next
  /-- a block that exists when the continuation is translated is closed unless it is open there or was returned
      inside the body -/
  closed : ∀ y, y < (wSX cc b O s).next → (y ∈ O ∨ s.next ≤ y) → y ∉ wOk cc b O s → y ∉ dR s (wS4 b O s) →
    Hf y = (wSX cc b O s).heap y
  dRk : dR s (compile k (wOk cc b O s) (wSX cc b O s)).2 =
    dR s (wS4 b O s) ++ dR (wSX cc b O s) (compile k (wOk cc b O s) (wSX cc b O s)).2
  dBk : dB s (compile k (wOk cc b O s) (wSX cc b O s)).2 = dB (wSX cc b O s) (compile k (wOk cc b O s) (wSX cc b O s)).2
  dCk : dC s (compile k (wOk cc b O s) (wSX cc b O s)).2 = dC (wSX cc b O s) (compile k (wOk cc b O s) (wSX cc b O s)).2

theorem wend (cc : Option Nat) (b k : Stmt) (l c : Bool) (hk : CSpec (compile k) l c) (O : List Nat) (s : CSt)
    (X : WCtx cc b O s) (hi : Inv s O) (Hf : Nat → Blk) (Rf : Nat → Nat) (Sf : List Nat) (P' : Nat → Prop)
    (hF : Fut Hf Rf Sf (compile k (wOk cc b O s) (wSX cc b O s)).2 P')
    (hP' : ∀ y, P' y → y < (compile k (wOk cc b O s) (wSX cc b O s)).2.next → (y ∈ O ∨ s.next ≤ y) →
      y ∈ Outs s (compile k (wOk cc b O s) (wSX cc b O s)).1 (compile k (wOk cc b O s) (wSX cc b O s)).2) :
    WEnd cc b k O s Hf P' := by
  have hlw := X.W.hlt hi.hlt
  obtain ⟨XF, LXF, AX, n1, _⟩ := wSX_facts cc b O s hlw X.A5
  have hix := wSX_inv cc b O s X.PCl hlw X.A5
  have Tk := hk.step hix (fun _ => AX)
  have LX := X.L5.trans LXF
  have hBX : dB s (wSX cc b O s) = [] := by simp [dB, LX.1, X.L4.1]
  have hCX : dC s (wSX cc b O s) = [] := by simp [dC, LX.2.1, X.L4.2]
  have hRX : dR s (wSX cc b O s) = dR s (wS4 b O s) := by simp [dR, LX.2.2]
  have WX := X.W.trans hi.hlt.1 XF
  have t := dX_trans WX Tk
  rw [hBX, hCX, hRX, List.nil_append, List.nil_append] at t
  refine ⟨Tk, AX, hix, LX, X.CL.next_le, n1, ?_, t.2.2, t.1, t.2.1⟩
  intro y hy hr hyo hyr
  -- pending in the end and not returned inside the body: pending for the continuation, so open there or new
  have hnp : ¬ P' y := fun hp' => by
    rcases (mem_Outs_trans WX Tk).mp (hP' y hp' (by have := Tk.next_le; omega) hr) with h | h
    · rw [mem_Outs, hBX, hCX, hRX] at h
      simp only [List.not_mem_nil, false_or] at h
      exact hyr h
    · rcases (Tk.outs_r y h).1 with h | h
      · exact hyo h
      · omega
  rw [hF.closed y (by have := Tk.next_le; omega) hnp, Tk.frame y hy hyo]

/-- the continuation of the loop: every block that is open after the loop simulates `k` -/
theorem while_ck (cc : Option Nat) (b k : Stmt) (l : Bool) (ihk : SimG act cond prog Hf E Rf Sf k l)
    (st : List Frame) (O : List Nat) (s : CSt) (m : Nat) (R0 : List Nat) (P' : Nat → Prop)
    (X : WCtx cc b O s) (Z : WEnd cc b k O s Hf P') (hi : Inv s O) (hsi : SInv s)
    (hbad : (compile k (wOk cc b O s) (wSX cc b O s)).2.bad = false)
    (hF : Fut Hf Rf Sf (compile k (wOk cc b O s) (wSX cc b O s)).2 P')
    (hP' : ∀ y, P' y → y < (compile k (wOk cc b O s) (wSX cc b O s)).2.next → (y ∈ O ∨ s.next ≤ y) →
      y ∈ Outs s (compile k (wOk cc b O s) (wSX cc b O s)).1 (compile k (wOk cc b O s) (wSX cc b O s)).2)
    (hp : Prems act cond prog Hf E Rf Sf m R0 st s (compile k (wOk cc b O s) (wSX cc b O s))) :
    ∀ o ∈ wOk cc b O s, TailSim2 act cond prog Hf E Rf Sf (lvl Rf R0 m o) o ((wSX cc b O s).heap o).items k st false := by
  obtain ⟨XF, LXF, _⟩ := wSX_facts cc b O s (X.W.hlt hi.hlt) X.A5
  have WX := X.W.trans hi.hlt.1 XF
  have PX := FPost.comp hi.hlt.1 X.W XF X.PCl (FPost.of_same LXF Z.hix.nodup Z.hix.front)
  have := ihk st (wOk cc b O s) (wSX cc b O s) m R0 P' Z.hix (hsi.step WX hi.hlt.2) (fun _ => Z.AX) hbad hF
    (by
      intro y hy hlt hr
      have h1 := hP' y hy hlt
        (hr.elim (fun h => (WX.open_r y h).1.imp_right And.left) (fun h => Or.inr (by have := WX.next_le; omega)))
      refine ((mem_Outs_trans WX Z.Tk).mp h1).resolve_left (fun h => ?_)
      -- listed before the continuation is translated: an older block that is not open
      have := PX.listed_old hi.hlt.1 WX h
      exact this.2 (hr.resolve_right (Nat.not_le_of_lt this.1)))
    ⟨hp.op, fun o' q hq => hp.li o' q ((Listed.trans_iff WX Z.Tk).mpr (Or.inr hq))⟩
  rwa [Z.AX] at this

/-- an open block after the loop that is older than the `continue` loop is a `break` block -/
theorem wOk_not (cc : Option Nat) (b : Stmt) (O : List Nat) (s : CSt) (Pc : WPieces cc b O s) (hn5 : (wS4 b O s).next ≤ (wCl cc b O s).2.next)
    (y : Nat) (hy : y ∈ wOk cc b O s) (hlt : y < (wS4 b O s).next) : y ∈ (wS3 b O s).brk := by
  have hnew := fun h => Nat.not_le_of_lt hlt (Pc.cl_new y h).1
  cases cc with
  | none => exact (List.mem_append.mp hy).resolve_left hnew
  | some c' =>
    rcases List.mem_cons.mp hy with h | h
    · omega
    · exact (List.mem_append.mp h).resolve_left hnew

/-- the final heap seen from the end of the body: pending are the body's outputs and what is older than the body block;
    roots are final at stage 4; a body block that is neither `break` nor returned is final at stage 5; what the body
    closed is not touched later -/
theorem fut_body (cc : Option Nat) (b k : Stmt) (O : List Nat) (s : CSt) (Hf : Nat → Blk) (Rf : Nat → Nat) (Sf : List Nat)
    (P' : Nat → Prop) (X : WCtx cc b O s) (Z : WEnd cc b k O s Hf P') (Pc : WPieces cc b O s) (hi : Inv s O)
    (hF : Fut Hf Rf Sf (compile k (wOk cc b O s) (wSX cc b O s)).2 P') :
    Fut Hf Rf Sf (wR b O s).2 (fun y => y ∈ Outs (wS1c O s) (wR b O s).1 (wR b O s).2 ∨ y < wBody O s) ∧
    (∀ y, y < (wS4 b O s).next → Rf y = (wS4 b O s).root y) ∧
    (∀ y, wBody O s ≤ y ∧ y < (wS4 b O s).next → y ∉ (wS3 b O s).brk → y ∉ dR s (wS4 b O s) →
      Hf y = (wCl cc b O s).2.heap y) ∧
    (∀ y, wBody O s ≤ y ∧ y < (wS4 b O s).next → y ∉ (wS3 b O s).cont → y ∉ (wR b O s).1 →
      (wSX cc b O s).heap y = (wR b O s).2.heap y) := by
  obtain ⟨XF, _, _, n1, fr1, _⟩ := wSX_facts cc b O s (X.W.hlt hi.hlt) X.A5
  have hn5 := Z.n5
  have hbl := X.hbl
  -- the `Fut` claim follows from the other three
  refine (and_iff_right_of_imp fun h => ?_).mpr ⟨fun y hy => ?_, fun y hr hnb hnr => ?_, fun y hr hc ho => ?_⟩
  · obtain ⟨hroot, hcl, _⟩ := h
    refine ⟨fun y hy => ?_, fun y hy hnp => ?_, fun y hy => ?_, ?_⟩
    · have hy4 : y < (wS4 b O s).next := by rw [X.next4]; exact hy
      have e : ((wR b O s).2.heap y).items = ((wS4 b O s).heap y).items := by
        by_cases hm : y ∈ (wR b O s).1
        · rw [X.h3 y hm]
        · rw [X.h3' y hm]
      rw [e]
      exact ((X.CL.items_mono y hy4).trans (XF.items_mono y (by omega))).trans
        ((Z.Tk.items_mono y (by omega)).trans (hF.items y (by have := Z.Tk.next_le; omega)))
    · simp only [mem_Outs, X.brk_eq, X.cont_eq, X.ret_eq, not_or, Nat.not_lt] at hnp
      have hr : wBody O s ≤ y ∧ y < (wS4 b O s).next := ⟨hnp.2, by rw [X.next4]; exact hy⟩
      rw [hcl y hr hnp.1.2.1 hnp.1.2.2.2, Pc.frame5 y hr.2 hnp.1.2.2.1, X.h3' y hnp.1.1]
    · rw [hroot y (by rw [X.next4]; exact hy), X.root4]
    · have h1 : (wR b O s).2.states = (wS4 b O s).states := (CSt.addfrontAll_states _ _ _).symm
      rw [h1]
      exact ((X.CL.states_mono.trans XF.states_mono).trans Z.Tk.states_mono).trans hF.states
  · rw [hF.root y (by have := Z.Tk.next_le; omega), Z.Tk.root_stable y (by omega), XF.root_stable y (by omega),
      X.CL.root_stable y hy]
  · rw [Z.closed y (by omega) (Or.inr (by have := X.sbl; omega)) (fun h => hnb (wOk_not cc b O s Pc hn5 y h hr.2)) hnr,
      fr1 y (by omega) (by omega)]
  · rw [fr1 y (by omega) (by omega), Pc.frame5 y hr.2 hc, X.h3' y ho]

/-- the block executed when the condition of the loop does not hold -/
def wEx (cc : Option Nat) (b : Stmt) (O : List Nat) (s : CSt) : Nat :=
  match cc with
  | none => wBody O s
  | some _ => (wCl cc b O s).2.next

section
variable (hE : ∀ b s, E b s = execB act cond E (Hf b) s)
include hE

/-- the head state of a loop simulates the suspension at the loop head, when the body block and the exit block
    simulate what follows there -/
theorem head_state_sim2 (cc : Option Nat) (b k : Stmt) (st : List Frame) (idx hb body ex : Nat)
    (hS : Sf[idx]? = some hb)
    (hEh : ∀ s0, E hb s0 = if evalC cond cc s0 then E body s0 else E ex s0) (m : Nat)
    (hB : ∀ j, j ≤ m → SimN act cond prog E Sf (j - 1) (.atHead cc b k st) idx →
      TailSim2 act cond prog Hf E Rf Sf j body [] b (.loop cc b k :: st) false)
    (hK : ∀ j, j ≤ m → (∃ s0, evalC cond cc s0 = false) → TailSim2 act cond prog Hf E Rf Sf j ex [] k st false) :
    ∀ j, j ≤ m → SimN act cond prog E Sf j (.atHead cc b k st) idx := by
  intro j
  induction j with
  | zero => intro _; trivial
  | succ j ih =>
    intro hj s0
    rw [mStep_some E Sf idx hb hS, hEh]
    simp only [refStep]
    cases hc : evalC cond cc s0 with
    | true =>
      simp only [if_true]
      rcases TailSim2.run act cond prog Hf E Rf Sf hE (i := idx) (hB (j+1) hj (ih (by omega))) s0 with h | ⟨f, r, h1, h2, _⟩
      · omega
      · exact ⟨f, r, h1, h2⟩
    | false =>
      simp only [Bool.false_eq_true, if_false]
      rcases TailSim2.run act cond prog Hf E Rf Sf hE (i := idx) (hK (j+1) hj ⟨s0, hc⟩) s0 with h | ⟨f, r, h1, h2, _⟩
      · omega
      · exact ⟨f, r, h1, h2⟩

theorem while_body (cc : Option Nat) (b k : Stmt)
    (ihb : SimG act cond prog Hf E Rf Sf b true)
    (st : List Frame) (O : List Nat) (s : CSt) (m : Nat) (R0 : List Nat) (P' : Nat → Prop)
    (X : WCtx cc b O s) (Z : WEnd cc b k O s Hf P') (Pc : WPieces cc b O s) (hi : Inv s O)
    (hF : Fut Hf Rf Sf (compile k (wOk cc b O s) (wSX cc b O s)).2 P')
    (hp : Prems act cond prog Hf E Rf Sf m R0 st s (compile k (wOk cc b O s) (wSX cc b O s)))
    (CKk : ∀ o ∈ wOk cc b O s, TailSim2 act cond prog Hf E Rf Sf (lvl Rf R0 m o) o ((wSX cc b O s).heap o).items k st false) :
    ∀ j, (∀ x, lvl Rf [Rf (wBody O s)] j x ≤ lvl Rf R0 m x) →
      SimN act cond prog E Sf (j - 1) (.atHead cc b k st) (wIdx O s) →
      TailSim2 act cond prog Hf E Rf Sf j (wBody O s) [] b (.loop cc b k :: st) false := by
  obtain ⟨FutB, hroot, hcl, hfr⟩ := fut_body cc b k O s Hf Rf Sf P' X Z Pc hi hF
  have hAR := X.B.atStart_false X.hi1.hlt.2 X.A1
  have hn5 := Z.n5
  have hnX := Z.nX
  intro j
  -- `hH`: the head state a clock later, for the back edges; `head_state_sim2` closes that circle in `simG_while_*`.
  -- Strong induction: a `continue` block is in a later state and runs the code of the body block there, at level `j - 1`.
  induction j using Nat.strongRecOn with
  | _ j ih =>
    intro hle hH
    have hbody := ihb (.loop cc b k :: st) [wBody O s] (wS1c O s) j [Rf (wBody O s)] _ X.hi1 X.hsi1 (fun _ => X.A1)
      Pc.badR FutB
      (fun y hy _ hr => hy.resolve_right (fun h => by
        have : (wS1c O s).next = wBody O s + 1 := X.next1
        simp only [List.mem_singleton] at hr
        omega))
      (show Prems act cond prog Hf E Rf Sf j _ _ (wS1c O s) (wR b O s) from ⟨?_, ?_⟩) (wBody O s) (by simp)
    · have e0 : ((wS1c O s).heap (wBody O s)).items = [] := congrArg Blk.items X.body0
      have eA : (wS1c O s).atStart = false := X.A1
      rwa [e0, eA, lvl_self] at hbody
    -- open blocks at the end of the body: the back edge
    · intro o' ho' suf hsuf s0
      have hr := Pc.rng o' (Or.inl ho')
      have hx := Pc.ob_x o' ho'
      have hHo : Hf o' = { (wR b O s).2.heap o' with front := [wIdx O s] } := by
        rw [hcl o' hr hx.1 hx.2.2, Pc.frame5 o' hr.2 hx.2.1, X.h3 o' ho']
      rw [hHo] at hsuf
      have : suf = [] := by simpa using hsuf.symm
      subst this
      rw [hAR]
      exact SimPt2.suspend act cond prog Hf E Sf o' (by rw [hHo]; rfl) (run_skip_loop act cond cc b k st _ s0)
        (SimN_mono_le act cond prog E Sf _ _ (by have := lvl_le Rf [Rf (wBody O s)] j o'; omega) _ _ hH)
    -- blocks listed by the body
    · intro o' q hq
      rcases hq with ⟨ho', rfl⟩ | ⟨ho', rfl⟩ | ⟨ho', rfl⟩
      -- a `break` block is open after the loop and continues with `k`
      · have ho'b : o' ∈ (wS3 b O s).brk := X.brk_eq ▸ ho'
        have hx := Pc.br_x o' ho'b
        have h1 := CKk o' (by cases cc <;> simp [wOk, wRb, ho'b])
        rw [hfr o' (Pc.rng o' (Or.inr (Or.inl ho'b))) hx.2.1 hx.1] at h1
        rw [hAR]
        exact (TailSim2_mono_le act cond prog Hf E Rf Sf _ _ o' (hle o') _ _ _ _ h1).pull act cond prog Hf E Rf Sf
          (fun s0 => RunTo.brk_loop act cond cc b k st false s0) (fun h => h)
      -- a `continue` block ends in the item of the `continue` loop: the condition again, then the body one level
      -- down (induction on the level) or the exit block
      · revert o'
        intro cb hcb
        have hcbc : cb ∈ (wS3 b O s).cont := X.cont_eq ▸ hcb
        have hr := Pc.rng cb (Or.inr (Or.inr (Or.inl hcbc)))
        have hx := Pc.co_x cb hcbc
        obtain ⟨hrne, it, hheap5, hit⟩ := Pc.eff cb hcbc
        have hRne : Rf cb ≠ Rf (wBody O s) := by rw [hroot cb hr.2, hroot _ X.body_lt]; exact hrne
        have hlv : lvl Rf [Rf (wBody O s)] j cb = j - 1 := by simp [lvl, hRne]
        have hfc : ((wR b O s).2.heap cb).front = [] :=
          X.FB.2 cb (mem_Outs.mpr (Or.inr (Or.inr (Or.inl hcb))))
        have hHc : Hf cb = { front := [], items := ((wR b O s).2.heap cb).items ++ [it] } := by
          rw [hcl cb hr hx.2.1 hx.2.2, hheap5, X.h3' cb hx.1]
          simp only [hfc]
        rw [hAR, hlv]
        intro suf hsuf s0
        rw [hHc] at hsuf
        have : suf = [it] := by simpa using hsuf.symm
        subst this
        by_cases hj : j - 1 = 0
        · exact Or.inl hj
        have hBS := ih (j - 1) (by omega)
          (fun x => Nat.le_trans (lvl_mono Rf _ _ _ x (by omega)) (hle x))
          (SimN_mono_le act cond prog E Sf _ _ (by omega) _ _ hH)
        have hEb := TailSim2.run act cond prog Hf E Rf Sf hE (i := cur Rf Sf cb) hBS s0
        cases cc with
        | none =>
          have hit' : it = .sub (wBody O s) := hit
          subst hit'
          have htl : tailF act cond Hf E cb [.sub (wBody O s)] s0 = E (wBody O s) s0 := by
            simp only [tailF, execI, hHc, lastT, por_none_right, por_none_left]
          rw [htl]
          exact SimPt2_pull act cond prog E Sf (RunTo.cont_loop_true act cond none b k st false s0 (by simp [evalC]))
            (fun h => h) hEb
        | some c' =>
          obtain ⟨bb, hbb1, _, rfl⟩ := hit
          have htl : tailF act cond Hf E cb [.ite c' (wBody O s) bb] s0 =
              if cond c' s0 then E (wBody O s) s0 else E bb s0 := by
            simp only [tailF, execI, hHc, lastT, por_none_right, por_none_left]
          rw [htl]
          cases hc : cond c' s0 with
          | true =>
            simp only [if_true]
            exact SimPt2_pull act cond prog E Sf (RunTo.cont_loop_true act cond (some c') b k st false s0 (by simp [evalC, hc]))
              (fun h => h) hEb
          | false =>
            simp only [Bool.false_eq_true, if_false]
            -- the new `break` block of this `continue` is empty and open after the loop
            have hlw := X.W.hlt hi.hlt
            obtain ⟨_, _, _, _, fr1, _⟩ := wSX_facts (some c') b O s hlw X.A5
            have hnew := Pc.cl_new bb hbb1
            have h1 := CKk bb (by simp [wOk, wRb, hbb1])
            rw [fr1 bb (by have := X.hbl; omega) (hlw.1 bb (by simp [wRb, hbb1])), hnew.2] at h1
            have hlvb := Nat.le_trans (lvl_ge Rf [Rf (wBody O s)] j bb) (hle bb)
            exact SimPt2_pull act cond prog E Sf (RunTo.cont_loop_false act cond (some c') b k st false s0 (by simp [evalC, hc]))
              (fun h => h) (SimPt2_mono_le act cond prog E Sf _ _ _ hlvb _ _ _ _ _ (TailSim2.run act cond prog Hf E Rf Sf hE h1 s0))
      -- a returned block is still listed when the whole statement is done
      · have ho'r : o' ∈ dR s (wS4 b O s) := X.ret_eq ▸ ho'
        have hr := Pc.rng o' (Or.inr (Or.inr (Or.inr ho'r)))
        have hx := Pc.re_x o' ho'r
        have h1 := hp.li o' .ret (Or.inr (Or.inr ⟨by rw [Z.dRk]; simp [ho'r], rfl⟩))
        have hno : o' ∉ wOk cc b O s := fun h => hx.2.1 (wOk_not cc b O s Pc hn5 o' h hr.2)
        rw [Z.Tk.atStart_false Z.hix.hlt.2 Z.AX, Z.Tk.frame o' (by omega) hno, hfr o' hr hx.2.2 hx.1] at h1
        rw [hAR]
        exact (TailSim2_mono_le act cond prog Hf E Rf Sf _ _ o' (hle o') _ _ _ _ h1).pull act cond prog Hf E Rf Sf
          (fun s0 => RunTo.ret_loop act cond cc b k st false s0) (fun h => h)

/-- the semantic facts about a translated loop that its two entry cases (after the start, at the start) share -/
theorem while_sem (cc : Option Nat) (b k : Stmt) (l c : Bool)
    (hb : CSpec (compile b) true c) (hk : CSpec (compile k) l c) (fb : FwdG (compile b) true)
    (bk : BadMono (compile k))
    (ihb : SimG act cond prog Hf E Rf Sf b true) (ihk : SimG act cond prog Hf E Rf Sf k l)
    (st : List Frame) (O : List Nat) (s : CSt) (m : Nat) (R0 : List Nat) (P' : Nat → Prop)
    (hi : Inv s O) (hsi : SInv s)
    (hbad : (compile k (wOk cc b O s) (wSX cc b O s)).2.bad = false)
    (hF : Fut Hf Rf Sf (compile k (wOk cc b O s) (wSX cc b O s)).2 P')
    (hP' : ∀ y, P' y → y < (compile k (wOk cc b O s) (wSX cc b O s)).2.next → (y ∈ O ∨ s.next ≤ y) →
      y ∈ Outs s (compile k (wOk cc b O s) (wSX cc b O s)).1 (compile k (wOk cc b O s) (wSX cc b O s)).2)
    (hp : Prems act cond prog Hf E Rf Sf m R0 st s (compile k (wOk cc b O s) (wSX cc b O s)))
    (hhb : wHb O s ∈ O ∨ s.next ≤ wHb O s) :
    Hf (wHb O s) = { front := [], items := ((wS1 O s).heap (wHb O s)).items ++ [wItem cc b O s] } ∧
    (∀ y ∈ O, y ≠ wHb O s → Hf y = (wS1 O s).heap y) ∧
    (∀ j, (∀ x, lvl Rf [Rf (wBody O s)] j x ≤ lvl Rf R0 m x) →
      SimN act cond prog E Sf (j - 1) (.atHead cc b k st) (wIdx O s) →
      TailSim2 act cond prog Hf E Rf Sf j (wBody O s) [] b (.loop cc b k :: st) false) ∧
    (∀ j, j ≤ lvl Rf R0 m (wHb O s) → (∃ s0 : σ, evalC cond cc s0 = false) →
      TailSim2 act cond prog Hf E Rf Sf j (wEx cc b O s) [] k st false) ∧
    (∀ y, y < (wS1 O s).next → Rf y = (wS1 O s).root y) ∧
    (wS1 O s).states <+: Sf := by
  have X := wctx cc b c hb fb O s hi hsi
  have Z := wend cc b k l c hk O s X hi Hf Rf Sf P' hF hP'
  have hlw := X.W.hlt hi.hlt
  obtain ⟨XF, _, _, n1, fr1, fr2, okc⟩ := wSX_facts cc b O s hlw X.A5
  have hbad5 : (wCl cc b O s).2.bad = false := by
    rw [← wSX_bad]
    exact bk _ _ hbad
  have Pc := wpieces cc b O s X hbad5
  have hn5 := Z.n5
  have hb4 := X.body_lt
  have hsb := X.sbl
  have hbl := X.hbl
  have CKk := while_ck act cond prog Hf E Rf Sf cc b k l ihk st O s m R0 P' X Z hi hsi hbad hF hP' hp
  have hbody := while_body act cond prog Hf E Rf Sf hE cc b k ihb st O s m R0 P' X Z Pc hi hF hp CKk
  -- a block older than the body block is none of the blocks the body produced
  have hold : ∀ y, y < wBody O s → y ∉ wOk cc b O s ∧ y ∉ dR s (wS4 b O s) ∧ y ∉ (wS3 b O s).cont ∧ y ∉ (wR b O s).1 := by
    intro y hy
    have hrn : ¬ (wBody O s ≤ y ∧ y < (wS4 b O s).next) := fun h => by omega
    refine ⟨fun h => ?_, fun h => hrn (Pc.rng y (Or.inr (Or.inr (Or.inr h)))),
      fun h => hrn (Pc.rng y (Or.inr (Or.inr (Or.inl h)))), fun h => hrn (Pc.rng y (Or.inl h))⟩
    exact hrn (Pc.rng y (Or.inr (Or.inl (wOk_not cc b O s Pc hn5 y h (by omega)))))
  have hchain : ∀ y, y < wBody O s → (wCl cc b O s).2.heap y = (wS1 O s).heap y := by
    intro y hy
    have hn := hold y hy
    have hy1 : y < (wS1c O s).next := by have : (wS1c O s).next = wBody O s + 1 := X.next1; omega
    rw [Pc.frame5 y (by omega) hn.2.2.1, X.h3' y hn.2.2.2, X.B.frame y hy1 (by simp; omega)]
    rfl
  have hs1R : (wS1 O s).next ≤ (wR b O s).2.next := X.B.next_le
  have hrootX : ∀ y, y < (wSX cc b O s).next → Rf y = (wSX cc b O s).root y := by
    intro y hy
    rw [hF.root y (by have := Z.Tk.next_le; omega), Z.Tk.root_stable y hy]
  obtain ⟨FutB, _⟩ := fut_body cc b k O s Hf Rf Sf P' X Z Pc hi hF
  refine ⟨?_, ?_, hbody, ?_, ?_, ?_⟩
  · have hn := hold (wHb O s) hbl
    rw [Z.closed (wHb O s) (by omega) hhb hn.1 hn.2.1, fr2, hchain _ hbl]
    simp only [X.hbf]
  · intro y hy hyne
    have hyl := hi.hlt.1 y hy
    have hn := hold y (by omega)
    rw [Z.closed y (by have := X.W.next_le; omega) (Or.inl hy) hn.1 hn.2.1, fr1 y hyne (by have := X.W.next_le; omega),
      hchain y (by omega)]
  -- the exit block of a loop with a condition is open after the loop, empty, and in the state of the head block
  · intro j hj ⟨s0, h0⟩
    cases cc with
    | none => simp [evalC] at h0
    | some c' =>
      have hm : (wCl (some c') b O s).2.next ∈ wOk (some c') b O s := by simp [wOk]
      rcases okc _ hm with h | ⟨_, h2, h3⟩
      · have := hlw.1 _ (List.mem_cons_of_mem _ h); omega
      · have hhX := hlw.1 _ (List.mem_cons_self ..)
        have h1 := CKk _ hm
        rw [h2, lvl_congr Rf R0 m _ (wHb O s)
          (by rw [hrootX _ (Z.hix.hlt.1 _ hm), h3, hrootX _ (by omega), XF.root_stable _ hhX])] at h1
        exact TailSim2_mono_le act cond prog Hf E Rf Sf _ _ _ hj _ _ _ _ h1
  · intro y hy
    rw [FutB.root y (by omega), X.B.root_stable y hy]
    rfl
  · exact (show (wS1 O s).states <+: _ from X.B.states_mono).trans FutB.states

theorem E_head (cc : Option Nat) (b : Stmt) (O : List Nat) (s : CSt) (x : Nat)
    (pre : List Item) (hpre : pre = [] ∨ pre = [.nop])
    (h : Hf x = { front := [], items := pre ++ [wItem cc b O s] }) (s0 : σ) :
    E x s0 = if evalC cond cc s0 then E (wBody O s) s0 else E (wEx cc b O s) s0 := by
  rw [hE x, h]
  cases cc with
  | none => rcases hpre with rfl | rfl <;> simp [execB, execI, lastT, wItem, evalC]
  | some c' =>
    rcases hpre with rfl | rfl <;> simp only [execB, execI, lastT, wItem, evalC, wEx, List.nil_append, List.singleton_append,
      por_none_right, por_none_left] <;> rfl

theorem simG_while_ns (cc : Option Nat) (b k : Stmt) (l c : Bool)
    (hb : CSpec (compile b) true c) (hk : CSpec (compile k) l c) (fb : FwdG (compile b) true)
    (bk : BadMono (compile k))
    (ihb : SimG act cond prog Hf E Rf Sf b true) (ihk : SimG act cond prog Hf E Rf Sf k l) :
    SimGAt act cond prog Hf E Rf Sf (.while_ cc b k) false := by
  intro st O s m R0 P' hi hsi hst hbad hF hP' hp o ho
  rw [compile_while] at hbad hF hP' hp
  obtain ⟨f1, f2, _, f5, f6, f8⟩ := wS1_ns O s hi hst
  obtain ⟨Hhb, hclO, hBody, hexit, _, hS1⟩ := while_sem act cond prog Hf E Rf Sf hE cc b k l c hb hk fb bk
    ihb ihk st O s m R0 P' hi hsi hbad hF hP' hp (Or.inr (Nat.le_of_eq f2.symm))
  have hol := hi.hlt.1 o ho
  have hHo : Hf o = { s.heap o with front := [s.states.length] } := by
    rw [hclO o ho (by rw [f2]; omega), f8 o ho]
  have hS : Sf[wIdx O s]? = some (wHb O s) := by
    rw [f1, f2, prefix_getElem? hS1 _ (by rw [f5]; simp), f5]; simp
  have hpre : ((wS1 O s).heap (wHb O s)).items = [] := by rw [f2, f6]
  rw [hpre] at Hhb
  have hEh := E_head act cond Hf E hE cc b O s _ [] (Or.inl rfl) Hhb
  have hhead := head_state_sim2 act cond prog Hf E Rf Sf hE cc b k st (wIdx O s) (wHb O s) (wBody O s) (wEx cc b O s)
    hS hEh (lvl Rf R0 m o - 1)
    (fun j hj hH => hBody j (lvl_new_le Rf R0 _ m o j hj) hH)
    (fun j hj => hexit j (by have := lvl_le Rf R0 m o; have := lvl_ge Rf R0 m (wHb O s); omega))
  intro suf hsuf s0
  rw [hHo] at hsuf
  have : suf = [] := by simpa using hsuf.symm
  subst this
  have := hhead (lvl Rf R0 m o - 1) (Nat.le_refl _)
  rw [f1] at this
  exact SimPt2.suspend act cond prog Hf E Sf o (by rw [hHo]; rfl) (run_while_susp act cond cc b k st s0) this

theorem simG_while_start (cc : Option Nat) (b k : Stmt) (l c : Bool)
    (hb : CSpec (compile b) true c) (hk : CSpec (compile k) l c) (fb : FwdG (compile b) true)
    (bk : BadMono (compile k))
    (ihb : SimG act cond prog Hf E Rf Sf b true) (ihk : SimG act cond prog Hf E Rf Sf k l) :
    SimGAt act cond prog Hf E Rf Sf (.while_ cc b k) true := by
  intro st O s m R0 P' hi hsi hst hbad hF hP' hp o ho
  have hO := hi.start hst
  subst hO
  have ho0 : o = 0 := by simpa using ho
  subst ho0
  rw [compile_while] at hbad hF hP' hp
  have h0 := hi.hlt.2
  obtain ⟨f1, f2, f3, f4, f5, f6, f7, f8⟩ := wS1_start s hsi h0 hst
  obtain ⟨Hhb, _, hBody, hexit, hroot1, hS1⟩ := while_sem act cond prog Hf E Rf Sf hE cc b k l c hb hk fb bk
    ihb ihk st [0] s m R0 P' hi hsi hbad hF hP' hp (Or.inl (by rw [f2]; simp))
  rw [f2, f6] at Hhb
  obtain ⟨tl, htl⟩ := hsi.states0
  obtain ⟨t, ht⟩ := hS1
  rw [f5, htl] at ht
  have hS0 : Sf[0]? = some 0 := by rw [← ht]; rfl
  have hR0 : Rf 0 = 0 := by rw [hroot1 0 (by omega), f8]
  have hRb : Rf (wBody [0] s) = Rf 0 := by rw [f3, hroot1 _ (by omega), f7, hR0]
  have hc0 : cur Rf Sf 0 = 0 := by rw [cur, hR0, ← ht]; simp
  have hEh := E_head act cond Hf E hE cc b [0] s 0 [.nop] (Or.inr rfl) Hhb
  rw [f2] at hexit
  have hhead := head_state_sim2 act cond prog Hf E Rf Sf hE cc b k st (wIdx [0] s) 0 (wBody [0] s) (wEx cc b [0] s)
    (by rw [f1]; exact hS0) hEh (lvl Rf R0 m 0 - 1)
    (fun j hj hH => hBody j (lvl_new_le Rf R0 _ m 0 j hj) hH) (fun j hj => hexit j (by omega))
  intro suf hsuf s0
  rw [Hhb, atStart_heap0 hst] at hsuf
  have : suf = [.nop] ++ [wItem cc b [0] s] := by simpa using hsuf.symm
  subst this
  have htl : tailF act cond Hf E 0 ([.nop] ++ [wItem cc b [0] s]) s0 = E 0 s0 := by
    rw [E_tailF act cond Hf E hE 0, Hhb]
  rw [htl, hEh, hc0]
  -- the head block runs in the first clock: the body, or the exit block, at the level of block 0
  cases hcc : evalC cond cc s0 with
  | true =>
    simp only [if_true]
    have hH := hhead (lvl Rf R0 m 0 - 1) (Nat.le_refl _)
    have h1 := hBody (lvl Rf R0 m 0) (lvl_same_le Rf R0 m 0 (wBody [0] s) _ hRb (Nat.le_refl _)) hH
    exact SimPt2_pull act cond prog E Sf (RunTo.while_fresh_true act cond cc b k st s0 hcc) (fun h => by cases h)
      (TailSim2.run act cond prog Hf E Rf Sf hE h1 s0)
  | false =>
    simp only [Bool.false_eq_true, if_false]
    exact SimPt2_pull act cond prog E Sf (RunTo.while_fresh_false act cond cc b k st s0 hcc) (fun h => by cases h)
      (TailSim2.run act cond prog Hf E Rf Sf hE (hexit _ (Nat.le_refl _) ⟨s0, hcc⟩) s0)

theorem simG_while (cc : Option Nat) (b k : Stmt) (l c : Bool)
    (hb : CSpec (compile b) true c) (hk : CSpec (compile k) l c) (fb : FwdG (compile b) true)
    (bk : BadMono (compile k))
    (ihb : SimG act cond prog Hf E Rf Sf b true) (ihk : SimG act cond prog Hf E Rf Sf k l) :
    SimG act cond prog Hf E Rf Sf (.while_ cc b k) l :=
  SimG.of_at act cond prog Hf E Rf Sf (simG_while_ns act cond prog Hf E Rf Sf hE cc b k l c hb hk fb bk ihb ihk)
    (fun _ => simG_while_start act cond prog Hf E Rf Sf hE cc b k l c hb hk fb bk ihb ihk)

end

end CohdlVerif.C01
