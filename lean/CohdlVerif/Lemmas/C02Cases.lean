import CohdlVerif.Lemmas.C02Lemmas

/-! C02 - what the induction cases of `C02.lower_correct` (Props/C02.lean) share: the typing of an operator node
    read backwards, the value of a well-typed operand, and the operand forms that `lower` prints. -/
namespace CohdlVerif.C02

/-- the statement of the property for one expression (all result types, all valuations of the domain) -/
def Good (env : Env) (e : Expr) : Prop :=
  ∀ t, typeOf e = .ok t → defined e env = true →
    InRange t (evalSpec e env) ∧ evalV (lower e) env = inj t (evalSpec e env)

/-! `typeOf` at the constructors whose rule inspects the operand type by patterns -/

theorem typeOf_inv (a : Expr) : typeOf (.inv a) = match typeOf a with
    | .ok .bit => .ok .bit
    | .ok (.bv w) => .ok (.bv w)
    | .ok (.uns w) => .ok (.uns w)
    | .ok (.sgn w) => .ok (.sgn w)
    | .ok _ => .error .kind
    | _ => .error .sub := rfl

theorem typeOf_neg (a : Expr) : typeOf (.neg a) = match typeOf a with
    | .ok (.sgn w) => .ok (.sgn w)
    | .ok (.uns w) => .ok (.uns w)
    | .ok _ => .error .kind
    | _ => .error .sub := rfl

theorem typeOf_abs (a : Expr) : typeOf (.abs a) = match typeOf a with
    | .ok (.sgn w) => .ok (.sgn w)
    | .ok _ => .error .kind
    | _ => .error .sub := rfl

theorem typeOf_resize (a : Expr) (w : Nat) : typeOf (.resize a w) = match typeOf a with
    | .ok (.uns wa) => if wa ≤ w then .ok (.uns w) else .error .width
    | .ok (.sgn wa) => if wa ≤ w then .ok (.sgn w) else .error .width
    | .ok _ => .error .kind
    | _ => .error .sub := rfl

theorem typeOf_indexRt (a n : Expr) : typeOf (.indexRt a n) = match typeOf a, typeOf n with
    | .ok ta, .ok (.uns k) =>
        if ta.isVec then (if 2 ^ k ≤ ta.width then .ok .bit else .error .index) else .error .kind
    | .ok _, .ok _ => .error .kind
    | _, _ => .error .sub := rfl

/-- the rule for a Python int operand inside `arithTy`, `cmpTy`, `shiftTy` -/
theorem int_ok {i : Option Int} {f : Int → Except Err Ty} {t : Ty}
    (h : (match i with | some k => f k | none => .error .kind) = .ok t) : ∃ k, i = some k ∧ f k = .ok t := by
  cases i with
  | none => cases h
  | some k => exact ⟨k, rfl, h⟩

theorem intVal_eval {a : Expr} {k : Int} (env : Env) (h : intVal a = some k) : evalSpec a env = .n k := by
  cases intVal_some h
  rfl

structure Opd (env : Env) (a : Expr) (ta : Ty) : Prop where
  ty : typeOf a = .ok ta
  good : InRange ta (evalSpec a env) ∧ evalV (lower a) env = inj ta (evalSpec a env)

/-! The operands of a well-typed, defined node with one, two or three operands (`typeOf` has these three shapes at
    most constructors).  Their types are written `tyOr (typeOf a)`, as `evalSpec` and `lower` write them, so that
    a rule lemma stated for arbitrary operand types closes the case by unfolding alone. -/

theorem Good.sub1 {env : Env} {a : Expr} {f : Ty → Except Err Ty} {t : Ty} (ha : Good env a)
    (ht : (match typeOf a with | .ok ta => f ta | _ => .error .sub) = .ok t) (hd : defined a env = true) :
    f (tyOr (typeOf a)) = .ok t ∧ Opd env a (tyOr (typeOf a)) := by
  cases hta : typeOf a with
  | error e => rw [hta] at ht; cases ht
  | ok ta => rw [hta] at ht; exact ⟨ht, hta, ha _ hta hd⟩

theorem Good.sub2 {env : Env} {a b : Expr} {f : Ty → Ty → Except Err Ty} {t : Ty} (ha : Good env a)
    (hb : Good env b)
    (ht : (match typeOf a, typeOf b with | .ok ta, .ok tb => f ta tb | _, _ => .error .sub) = .ok t)
    (hd : (defined a env && defined b env) = true) :
    f (tyOr (typeOf a)) (tyOr (typeOf b)) = .ok t ∧ Opd env a (tyOr (typeOf a)) ∧ Opd env b (tyOr (typeOf b)) := by
  obtain ⟨hda, hdb⟩ := Bool.and_eq_true_iff.mp hd
  split at ht
  case h_2 => cases ht
  rename_i ta tb hta htb
  rw [hta, htb]
  exact ⟨ht, ⟨hta, ha _ hta hda⟩, htb, hb _ htb hdb⟩

theorem Good.sub3 {env : Env} {a b c : Expr} {f : Ty → Ty → Ty → Except Err Ty} {t : Ty} (ha : Good env a)
    (hb : Good env b) (hc : Good env c)
    (ht : (match typeOf a, typeOf b, typeOf c with
      | .ok ta, .ok tb, .ok tc => f ta tb tc | _, _, _ => .error .sub) = .ok t)
    (hd : (defined a env && defined b env && defined c env) = true) :
    f (tyOr (typeOf a)) (tyOr (typeOf b)) (tyOr (typeOf c)) = .ok t ∧
      Opd env a (tyOr (typeOf a)) ∧ Opd env b (tyOr (typeOf b)) ∧ Opd env c (tyOr (typeOf c)) := by
  obtain ⟨hdab, hdc⟩ := Bool.and_eq_true_iff.mp hd
  obtain ⟨hda, hdb⟩ := Bool.and_eq_true_iff.mp hdab
  split at ht
  case h_2 => cases ht
  rename_i ta tb tc hta htb htc
  rw [hta, htb, htc]
  exact ⟨ht, ⟨hta, ha _ hta hda⟩, ⟨htb, hb _ htb hdb⟩, htc, hc _ htc hdc⟩

theorem inRange_ite {t : Ty} {v1 v2 : Val} (c : Bool) (h1 : InRange t v1) (h2 : InRange t v2) :
    InRange t (if c then v1 else v2) := by
  cases c <;> assumption

/-- uniform view of an in-range vector value: the VHDL value is (kind, width, pattern) and the pattern, read as a
    number, is `pat t` of the value -/
theorem vecView {t : Ty} {v : Val} (hv : t.isVec = true) (hr : InRange t v) :
    ∃ p : Nat, inj t v = .vec (vkOf t) t.width p ∧ p < 2 ^ t.width ∧ (p : Int) = pat t v.num ∧ 1 ≤ t.width := by
  obtain ⟨hx, hw⟩ := inR_vec hv hr
  exact ⟨_, hx ▸ inj_vec hv _, enc_lt _ _, enc_pat hv _, hw⟩

theorem Opd.vec {env : Env} {a : Expr} {ta : Ty} (o : Opd env a ta) (hv : ta.isVec = true) :
    ∃ p : Nat, evalV (lower a) env = .vec (vkOf ta) ta.width p ∧ p < 2 ^ ta.width ∧
      (p : Int) = pat ta (evalSpec a env).num ∧ 1 ≤ ta.width :=
  (vecView hv o.good.1).imp fun _ h => ⟨o.good.2.trans h.1, h.2⟩

theorem inR_bit {v : Val} (h : InRange .bit v) : ∃ b, v = .b b := by
  cases v with
  | b x => exact ⟨x, rfl⟩
  | n _ => exact h.elim
theorem inR_bool {v : Val} (h : InRange .bool v) : ∃ b, v = .b b := by
  cases v with
  | b x => exact ⟨x, rfl⟩
  | n _ => exact h.elim
theorem inR_int {v : Val} (h : InRange .int v) : ∃ x, v = .n x := by
  cases v with
  | n x => exact ⟨x, rfl⟩
  | b _ => exact h.elim
theorem inR_uns {w : Nat} {v : Val} (h : InRange (.uns w) v) : ∃ x, v = .n x ∧ 1 ≤ w ∧ 0 ≤ x ∧ x < 2 ^ w := by
  cases v with
  | n x => exact ⟨x, rfl, h⟩
  | b _ => exact h.elim
theorem inR_bv {w : Nat} {v : Val} (h : InRange (.bv w) v) : ∃ x, v = .n x ∧ 1 ≤ w ∧ 0 ≤ x ∧ x < 2 ^ w := by
  cases v with
  | n x => exact ⟨x, rfl, h⟩
  | b _ => exact h.elim
theorem inR_sgn {w : Nat} {v : Val} (h : InRange (.sgn w) v) :
    ∃ x, v = .n x ∧ 1 ≤ w ∧ -(2 ^ (w - 1)) ≤ x ∧ x < 2 ^ (w - 1) := by
  cases v with
  | n x => exact ⟨x, rfl, h⟩
  | b _ => exact h.elim

theorem lopV_ofL (op : LOp) (p q : Nat) : lopV (.ofL op) p q = lopN op p q := by cases op <;> rfl
theorem lopVB_ofL (op : LOp) (p q : Bool) : lopVB (.ofL op) p q = lopB op p q := by cases op <;> rfl

theorem vbin_ofL_vec (op : LOp) (k : VK) (w p q : Nat) :
    vbin (.ofL op) (.vec k w p) (.vec k w q) = .vec k w (lopN op p q) := by
  cases op <;> exact if_pos ⟨rfl, rfl⟩

theorem vrel_num (op : COp) {k : VK} (hk : k ≠ .slv) (wa pa wb pb : Nat) :
    vrel op (.vec k wa pa) (.vec k wb pb) = .bool (copI op (dec k wa pa) (dec k wb pb)) := by
  cases k <;> first | exact absurd rfl hk | rfl

theorem vrel_num_int (op : COp) {k : VK} (hk : k ≠ .slv) {i : Int} (hi : k = .uns → 0 ≤ i) (w p : Nat) :
    vrel op (.vec k w p) (.int i) = .bool (copI op (dec k w p) i) ∧
    vrel op (.int i) (.vec k w p) = .bool (copI op i (dec k w p)) := by
  cases k
  · exact absurd rfl hk
  · have h : ¬ i < 0 := Int.not_lt.mpr (hi rfl)
    simp only [vrel, dec, h, if_false, and_self]
  · exact ⟨rfl, rfl⟩

theorem copI_swap (op : COp) (x y : Int) : copI op.swap y x = copI op x y := by
  cases op <;> simp [copI, COp.swap, BEq.comm, bne_comm]

theorem shiftTy_ok {ta tn t : Ty} {inn : Option Int} (h : shiftTy ta tn inn = .ok t) :
    t = ta ∧ ta.isNum = true ∧ ((∃ k, tn = .uns k) ∨ tn = .int ∧ ∃ k, inn = some k ∧ 0 ≤ k) := by
  unfold shiftTy at h
  split at h
  case h_5 => cases h
  case h_1 | h_2 =>
    cases h
    exact ⟨rfl, rfl, .inl ⟨_, rfl⟩⟩
  all_goals
    obtain ⟨k, rfl, h⟩ := int_ok h
    obtain ⟨hk, h⟩ := ite_ok_iff.mp h
    cases h
    exact ⟨rfl, rfl, .inr ⟨rfl, k, rfl, hk⟩⟩

/-- the shift amount as printed (`to_integer(n)` for an Unsigned amount, the literal for a Python int) evaluates
    to the amount's value.  (The `simp only` below is the first to need the equations of `lower`, `evalV` and
    `evalSpec`; deriving them is most of its cost, and Props/C02.lean then finds them here.) -/
theorem shift_amt (env : Env) (a : Expr) {n : Expr} {tn : Ty} (on : Opd env n tn)
    (h : (∃ k, tn = .uns k) ∨ tn = .int ∧ ∃ k, intVal n = some k ∧ 0 ≤ k) :
    evalV (lower (.shl a n)) env = vshiftL (evalV (lower a) env) (.int ((evalSpec n env).num.toNat : Nat)) ∧
    evalV (lower (.shr a n)) env = vshiftR (evalV (lower a) env) (.int ((evalSpec n env).num.toNat : Nat)) := by
  obtain ⟨htn, rn, en⟩ := on
  rcases h with ⟨k, rfl⟩ | ⟨rfl, k, hk, k0⟩
  · obtain ⟨y, hy, _, y0, y1⟩ := inR_uns rn
    simp only [lower, htn, tyOr, evalV, en, hy, inj, vtoInteger, Val.num, enc_of_range y0 y1,
      Int.toNat_of_nonneg y0, and_self]
  · cases intVal_some hk
    simp only [lower, htn, tyOr, evalV, evalSpec, Val.num, Int.toNat_of_nonneg k0, and_self]

/-- an operand of `&` after the `.bitvector` coercion: a std_logic_vector of width `w` with pattern `p`, or a
    single std_logic (width 1) -/
def IsCat (vv : VVal) (w p : Nat) : Prop :=
  vv = .vec .slv w p ∨ (w = 1 ∧ ∃ b : Bool, vv = .sl b ∧ p = if b then 1 else 0)

/-- (`simp [vbin]` rather than `rfl`: it derives the equations of `vbin` here, once, for Props/C02.lean.) -/
theorem vbin_cat {va vb : VVal} {wa pa wb pb : Nat} (ha : IsCat va wa pa) (hb : IsCat vb wb pb) :
    vbin .cat va vb = .vec .slv (wa + wb) (pa * 2 ^ wb + pb) := by
  rcases ha with rfl | ⟨rfl, x, rfl, rfl⟩ <;> rcases hb with rfl | ⟨rfl, y, rfl, rfl⟩ <;> simp [vbin]

theorem coerce_eq (t : Ty) (x : VExpr) :
    (match t with | .uns _ | .sgn _ => VExpr.conv .slv x | _ => x) = if t.isNum then .conv .slv x else x := by
  cases t <;> rfl

theorem lower_concat_eq (a b : Expr) :
    lower (.concat a b) = .bin .cat
      (if (tyOr (typeOf a)).isNum then .conv .slv (lower a) else lower a)
      (if (tyOr (typeOf b)).isNum then .conv .slv (lower b) else lower b) :=
  congr (congrArg (VExpr.bin .cat) (coerce_eq _ _)) (coerce_eq _ _)

theorem cat_operand (env : Env) {A : VExpr} {ta : Ty} {v : Val} {w : Nat} (ra : InRange ta v)
    (ea : evalV A env = inj ta v) (hw : catW ta = some w) :
    ∃ p, IsCat (evalV (if ta.isNum then .conv .slv A else A) env) w p ∧
      p < 2 ^ w ∧ (p : Int) = pat ta v.num ∧ w = ta.width ∧ 1 ≤ w := by
  cases ta <;> simp [catW] at hw <;> subst hw
  · obtain ⟨b, hb⟩ := inR_bit ra
    refine ⟨if b then 1 else 0, Or.inr ⟨rfl, b, by simp [Ty.isNum, ea, hb, inj], rfl⟩, by cases b <;> simp, ?_, rfl, Nat.le_refl _⟩
    cases b <;> simp [hb, pat, Val.num]
  all_goals
    obtain ⟨p, iv, pl, pc, hw1⟩ := vecView rfl ra
    refine ⟨p, Or.inl ?_, pl, pc, rfl, hw1⟩
    simp [Ty.isNum, evalV, ea, iv, vconv, vkOf, Ty.width]

theorem vconv_vconv (k1 k2 : VK) (v : VVal) : vconv k2 (vconv k1 v) = vconv k2 v := by
  cases v <;> simp [vconv]

theorem vconv_same (k : VK) (w p : Nat) : vconv k (.vec k w p) = .vec k w p := by simp [vconv]

theorem inj_sameType {t : Ty} {v1 v2 : Val} (h1 : InRange t v1) (h2 : InRange t v2) :
    (inj t v1).sameType (inj t v2) = true := by
  cases t <;> cases v1 <;> cases v2 <;> first | exact h1.elim | exact h2.elim | simp [inj, VVal.sameType]

theorem inj_ne_err {t : Ty} {v : Val} (h : InRange t v) : (inj t v != .err) = true := by
  cases t <;> cases v <;> first | exact h.elim | rfl

theorem litV_vec {t : Ty} (hv : t.isVec = true) (k : Int) : litV t k = .vlit (vkOf t) t.width (enc t.width k) := by
  cases t <;> first | rfl | cases hv

/-- the choice literal of a `with .. select` branch against the selector value -/
theorem sel_key (env : Env) (targ : Ty) (v : Val) (key : Int) (hk : (targ.isVec || targ == .bit) = true)
    (hr : InRange targ v) (hf : fits targ key = true) :
    (inj targ v).sameType (evalV (litV targ key) env) = true ∧
    ((inj targ v == evalV (litV targ key) env) = (v.num == key)) := by
  cases hv : targ.isVec
  · cases targ <;> simp [Ty.isVec] at hk hv
    obtain ⟨b, rfl⟩ := inR_bit hr
    simp only [fits, Bool.or_eq_true, beq_iff_eq] at hf
    rcases hf with rfl | rfl <;> cases b <;> simp [litV, evalV, inj, VVal.sameType, Val.num]
  · -- patterns of two values of one vector type are equal only if the values are
    obtain ⟨hx, hw⟩ := inR_vec hv hr
    generalize v.num = x at hx
    subst hx
    have hkey := fits_inRange hv hw hf
    have hinj : enc targ.width x = enc targ.width key ↔ x = key :=
      ⟨fun h => by rw [← dec_enc hv hr, ← dec_enc hv hkey, h], fun h => by rw [h]⟩
    refine ⟨by simp [litV_vec hv, inj_vec hv, evalV, VVal.sameType], ?_⟩
    rw [Bool.eq_iff_iff, beq_iff_eq, beq_iff_eq, ← hinj, litV_vec hv, inj_vec hv]
    simp [evalV]

end CohdlVerif.C02
