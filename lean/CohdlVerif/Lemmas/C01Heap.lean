import CohdlVerif.Model.CoroCompile

/-! C01 - semantics of the block heap of the compiler mirror (`execI`, `execB`) and its agreement with the exported
  `Code` (`flatB`): the semantics induced by the export is a fixed point of `execB` (`heap_fix`). -/
namespace CohdlVerif.C01

variable {σ : Type} (act : Nat → σ → σ) (cond : Nat → σ → Bool)

/-- "the later transition wins": `por later earlier` -/
def por (a b : Option Nat) : Option Nat := match a with | some x => some x | none => b

@[simp] theorem por_none_left (b : Option Nat) : por none b = b := rfl

@[simp] theorem por_some_left (x : Nat) (b : Option Nat) : por (some x) b = some x := rfl

@[simp] theorem por_none_right (a : Option Nat) : por a none = a := by cases a <;> rfl

theorem por_assoc (a b c : Option Nat) : por (por a b) c = por a (por b c) := by cases a <;> rfl

/-- the pending transition at entry is only a default -/
theorem exec_pend (c : Code) : ∀ (s : σ) (p : Option Nat),
    exec act cond c s p = ((exec act cond c s none).1, por (exec act cond c s none).2 p) := by
  induction c with
  | nil => intro s p; simp [exec]
  | act a k ih => intro s p; simp only [exec]; exact ih _ _
  | trans t k ih =>
    intro s p; simp only [exec]
    rw [ih s (some t)]
    cases h : (exec act cond k s none).2 <;> simp [por]
  | ite c t e k iht ihe ihk =>
    intro s p
    simp only [exec]
    cases cond c s
    · simp only [Bool.false_eq_true, if_false]
      rw [ihk (exec act cond e s p).1 (exec act cond e s p).2,
          ihk (exec act cond e s none).1 (exec act cond e s none).2, ihe s p]
      simp [por_assoc]
    · simp only [if_true]
      rw [ihk (exec act cond t s p).1 (exec act cond t s p).2,
          ihk (exec act cond t s none).1 (exec act cond t s none).2, iht s p]
      simp [por_assoc]

/-- semantics of block items, relative to the semantics `E` of the blocks they refer to (entry: nothing pending) -/
def execI (E : Nat → σ → σ × Option Nat) : List Item → σ → σ × Option Nat
  | [], s => (s, none)
  | .act a :: r, s => execI E r (act a s)
  | .ite c t e :: r, s =>
      let r1 := if cond c s then E t s else E e s
      let r2 := execI E r r1.1
      (r2.1, por r2.2 r1.2)
  | .sub b :: r, s =>
      let r1 := E b s
      let r2 := execI E r r1.1
      (r2.1, por r2.2 r1.2)
  | .nop :: r, s => execI E r s

/-- the effective front transition = the last one in content order -/
def lastT : List Nat → Option Nat
  | [] => none
  | [t] => some t
  | _ :: r => lastT r

/-- semantics of a block: items, else the front transition -/
def execB (E : Nat → σ → σ × Option Nat) (b : Blk) (s : σ) : σ × Option Nat :=
  let r := execI act cond E b.items s
  (r.1, por r.2 (lastT b.front))

theorem execI_append (E : Nat → σ → σ × Option Nat) (xs ys : List Item) : ∀ s : σ,
    execI act cond E (xs ++ ys) s =
      ((execI act cond E ys (execI act cond E xs s).1).1,
       por (execI act cond E ys (execI act cond E xs s).1).2 (execI act cond E xs s).2) := by
  induction xs with
  | nil => intro s; simp [execI]
  | cons x xs ih =>
    intro s
    cases x with
    | act a => simp only [List.cons_append, execI]; exact ih _
    | nop => simp only [List.cons_append, execI]; exact ih _
    | ite c t e => simp only [List.cons_append, execI]; rw [ih]; simp [por_assoc]
    | sub b => simp only [List.cons_append, execI]; rw [ih]; simp [por_assoc]

/-- block semantics induced by a (partial) export function -/
def Eof (deref : Nat → Code → Option Code) (b : Nat) (s : σ) : σ × Option Nat :=
  match deref b .nil with
  | some c => exec act cond c s none
  | none => (s, none)

/-- `deref b k` = code of `b`, then `k` -/
def DerefOk (deref : Nat → Code → Option Code) : Prop :=
  ∀ b k c, deref b k = some c → ∃ c0, deref b .nil = some c0 ∧
    ∀ (s : σ) (p : Option Nat), exec act cond c s p =
      exec act cond k (exec act cond c0 s none).1 (por (exec act cond c0 s none).2 p)

theorem flatItems_exec (deref : Nat → Code → Option Code) (hd : DerefOk act cond deref) (items : List Item) :
    ∀ (k c : Code), flatItems deref items k = some c → ∀ (s : σ) (p : Option Nat),
      exec act cond c s p =
        exec act cond k (execI act cond (Eof act cond deref) items s).1
          (por (execI act cond (Eof act cond deref) items s).2 p) := by
  induction items with
  | nil => intro k c h s p; simp [flatItems] at h; subst h; simp [execI]
  | cons x xs ih =>
    intro k c h s p
    cases x with
    | act a =>
      simp only [flatItems, Option.map_eq_some_iff] at h
      obtain ⟨c', h', rfl⟩ := h
      simp only [exec, execI]; exact ih _ _ h' _ _
    | nop => simp only [flatItems] at h; simp only [execI]; exact ih _ _ h _ _
    | ite cc t e =>
      simp only [flatItems] at h
      split at h
      · rename_i ct ce cr ht he hr
        simp only [Option.some.injEq] at h; subst h
        simp only [exec, execI, Eof, ht, he]
        rw [ih _ _ hr]
        cases cond cc s
        · simp only [Bool.false_eq_true, if_false]
          rw [exec_pend act cond ce s p]; simp [por_assoc]
        · simp only [if_true]
          rw [exec_pend act cond ct s p]; simp [por_assoc]
      · simp at h
    | sub b =>
      simp only [flatItems, Option.bind_eq_some_iff] at h
      obtain ⟨cr, hr, hb⟩ := h
      obtain ⟨c0, hc0, hex⟩ := hd _ _ _ hb
      rw [hex, ih _ _ hr]
      simp only [execI, Eof, hc0, por_assoc]

theorem lastT_cons (t : Nat) (r : List Nat) : lastT (t :: r) = por (lastT r) (some t) := by
  induction r generalizing t with
  | nil => rfl
  | cons t' r ih =>
    show lastT (t' :: r) = _
    rw [ih t', por_assoc]
    rfl

theorem frontCode_exec (fr : List Nat) : ∀ (k : Code) (s : σ) (p : Option Nat),
    exec act cond (frontCode true fr k) s p = exec act cond k s (por (lastT fr) p) := by
  induction fr with
  | nil => intro k s p; rfl
  | cons t r ih =>
    intro k s p
    show exec act cond (frontCode true r k) s (some t) = _
    rw [ih, lastT_cons, por_assoc]
    rfl

/-- the export is parametric in the code that follows.  `R = Eq`: a larger export; `R = True`: success only;
    `R c c' := c' = dropT c`: dropped transitions. -/
theorem flatItems_rel {R : Code → Code → Prop} (hnil : R .nil .nil)
    (hact : ∀ a c c', R c c' → R (.act a c) (.act a c'))
    (hite : ∀ x t t' e e' r r', R t t' → R e e' → R r r' → R (.ite x t e r) (.ite x t' e' r'))
    {d d' : Nat → Code → Option Code}
    (hd : ∀ b k k' c, R k k' → d b k = some c → ∃ c', d' b k' = some c' ∧ R c c') (items : List Item) :
    ∀ k k' c, R k k' → flatItems d items k = some c → ∃ c', flatItems d' items k' = some c' ∧ R c c' := by
  induction items with
  | nil =>
    intro k k' c hk h
    cases h
    exact ⟨k', rfl, hk⟩
  | cons x xs ih =>
    intro k k' c hk h
    cases x with
    | act a =>
      obtain ⟨c1, h1, rfl⟩ := Option.map_eq_some_iff.mp h
      obtain ⟨c1', h1', r1⟩ := ih _ _ _ hk h1
      exact ⟨.act a c1', by rw [flatItems, h1']; rfl, hact _ _ _ r1⟩
    | nop => exact ih _ _ _ hk h
    | ite x t e =>
      simp only [flatItems] at h
      split at h
      · rename_i ct ce cr ht he hr
        cases h
        obtain ⟨ct', ht', rt⟩ := hd _ _ _ _ hnil ht
        obtain ⟨ce', he', re⟩ := hd _ _ _ _ hnil he
        obtain ⟨cr', hr', rr⟩ := ih _ _ _ hk hr
        exact ⟨.ite x ct' ce' cr', by simp only [flatItems, ht', he', hr'], hite _ _ _ _ _ _ _ rt re rr⟩
      · cases h
    | sub b =>
      obtain ⟨cr, hr, hb⟩ := Option.bind_eq_some_iff.mp h
      obtain ⟨cr', hr', rr⟩ := ih _ _ _ hk hr
      obtain ⟨c', hc', rc⟩ := hd _ _ _ _ rr hb
      exact ⟨c', by rw [flatItems, hr']; exact hc', rc⟩

theorem flatB_rel {R : Code → Code → Prop} (hnil : R .nil .nil)
    (hact : ∀ a c c', R c c' → R (.act a c) (.act a c'))
    (hite : ∀ x t t' e e' r r', R t t' → R e e' → R r r' → R (.ite x t e r) (.ite x t' e' r'))
    {k1 k2 : Bool} {H H' : Nat → Blk} (hH : ∀ x, (H' x).items = (H x).items)
    (hfront : ∀ b c c', R c c' → R (frontCode k1 (H b).front c) (frontCode k2 (H' b).front c')) :
    ∀ f b k k' c, R k k' → flatB k1 H f b k = some c → ∃ c', flatB k2 H' f b k' = some c' ∧ R c c' := by
  intro f
  induction f with
  | zero => intro b k k' c _ h; cases h
  | succ f ih =>
    intro b k k' c hk h
    obtain ⟨ci, hci, rfl⟩ := Option.map_eq_some_iff.mp h
    obtain ⟨ci', hci', ri⟩ := flatItems_rel hnil hact hite ih _ _ _ _ hk hci
    exact ⟨_, by rw [flatB, hH, hci']; rfl, hfront _ _ _ ri⟩

theorem flatB_mono (keepT : Bool) (H : Nat → Blk) : ∀ f b k c,
    flatB keepT H f b k = some c → flatB keepT H (f+1) b k = some c := by
  intro f
  induction f with
  | zero => intro b k c h; cases h
  | succ f ih =>
    intro b k c h
    obtain ⟨ci, hci, rfl⟩ := Option.map_eq_some_iff.mp h
    obtain ⟨_, hci', rfl⟩ := flatItems_rel (R := Eq) rfl (fun _ _ _ h => h ▸ rfl)
      (fun _ _ _ _ _ _ _ ht he hr => ht ▸ he ▸ hr ▸ rfl) (fun b k _ c hk hc => ⟨c, hk ▸ ih b k c hc, rfl⟩)
      _ _ _ _ rfl hci
    rw [flatB, hci']
    rfl

theorem flatB_mono_le (keepT : Bool) (H : Nat → Blk) (f f' : Nat) (hle : f ≤ f') (b : Nat) (k c : Code)
    (h : flatB keepT H f b k = some c) : flatB keepT H f' b k = some c := by
  induction hle with
  | refl => exact h
  | step _ ih => exact flatB_mono _ _ _ _ _ _ ih

/-- whether a block can be exported depends neither on the continuation, nor on `keepT`, nor on the front lists -/
theorem flatB_isSome_congr (k1 k2 : Bool) (H H' : Nat → Blk) (hH : ∀ x, (H' x).items = (H x).items) :
    ∀ f b k k', (flatB k1 H f b k).isSome → (flatB k2 H' f b k').isSome := by
  intro f b k k' h
  obtain ⟨c, hc⟩ := Option.isSome_iff_exists.mp h
  obtain ⟨c', hc', -⟩ := flatB_rel (R := fun _ _ => True) trivial (fun _ _ _ _ => trivial)
    (fun _ _ _ _ _ _ _ _ _ _ => trivial) hH (fun _ _ _ _ => trivial) f b k k' c trivial hc
  exact Option.isSome_iff_exists.mpr ⟨c', hc'⟩

theorem flatB_derefOk (H : Nat → Blk) : ∀ f, DerefOk act cond (flatB true H f) := by
  intro f
  induction f with
  | zero => intro b k c h; simp [flatB] at h
  | succ f ih =>
    intro b k c h
    have hk := flatB_isSome_congr true true H H (fun _ => rfl) (f+1) b k .nil (by simp [h])
    obtain ⟨c0, hc0⟩ := Option.isSome_iff_exists.mp hk
    refine ⟨c0, hc0, ?_⟩
    simp only [flatB, Option.map_eq_some_iff] at h hc0
    obtain ⟨ci, hci, rfl⟩ := h
    obtain ⟨ci0, hci0, rfl⟩ := hc0
    intro s p
    rw [frontCode_exec, frontCode_exec, flatItems_exec act cond _ ih _ _ _ hci,
        flatItems_exec act cond _ ih _ _ _ hci0]
    simp [exec, por_assoc]

/-- if every block can be exported with fuel `N`, the induced block semantics is a fixed point of `execB` -/
theorem heap_fix (H : Nat → Blk) (N : Nat) (hall : ∀ b, (flatB true H N b .nil).isSome) (b : Nat) (s : σ) :
    Eof act cond (flatB true H N) b s = execB act cond (Eof act cond (flatB true H N)) (H b) s := by
  obtain ⟨c, hc⟩ := Option.isSome_iff_exists.mp (hall b)
  have h1 := flatB_mono true H N b .nil c hc
  simp only [flatB, Option.map_eq_some_iff] at h1
  obtain ⟨ci, hci, rfl⟩ := h1
  simp only [Eof, hc, execB]
  rw [frontCode_exec, flatItems_exec act cond _ (flatB_derefOk act cond H N) _ _ _ hci]
  simp [exec]

end CohdlVerif.C01
