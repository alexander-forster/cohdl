import CohdlVerif.Lemmas.C01Step

/-! C01 - every case of `compile` is a `Step` (`CSpec`); the intermediate states of a call (`cIn`, `cOut`), of `while`
  (`wS0` .. `wSX`, legend at `wIdx`) and of `await` (`aS`) by name. -/
namespace CohdlVerif.C01

theorem atStart_nil_false {s : CSt} {O : List Nat} (hJ : s.atStart = true → O = [0]) (hO : O.isEmpty = true) :
    s.atStart = false := by
  cases h : s.atStart with
  | false => rfl
  | true => have := hJ h; subst this; simp at hO

theorem skip_spec (l c : Bool) : CSpec (compile .skip) l c :=
  fun O s _ hJ _ => ⟨Step.refl s O, fun h => Or.inl ⟨hJ h, rfl⟩⟩

theorem appendAll_atStart {s : CSt} {O : List Nat} (hl : Hlt s O) (hJ : s.atStart = true → O = [0]) (it : Item) :
    (s.appendAll O it).atStart = false := by
  cases hst : s.atStart with
  | true =>
    have := hJ hst; subst this
    exact atStart_false_of_items (appendAll_items_ne it 0 [0] s (by simp))
  | false => exact ((HeapExt.appendAll O it O s (fun _ h => h)).step hl.1).atStart_false hl.2 hst

theorem act_spec (a : Nat) (k : Stmt) (l c : Bool) (hk : CSpec (compile k) l c) : CSpec (compile (.act a k)) l c :=
  fun O s hl hJ _ => hk.after hl ((HeapExt.appendAll O (.act a) O s (fun _ h => h)).step hl.1) (appendAll_atStart hl hJ _)

theorem brk_spec (c : Bool) : CSpec (compile .brk) true c :=
  fun O s _ _ hL => ⟨Step.toLists s O (Or.inr rfl) (Or.inl rfl) (Or.inl rfl), JPost.of_false (hL rfl)⟩

theorem cont_spec (c : Bool) : CSpec (compile .cont) true c :=
  fun O s _ _ hL => ⟨Step.toLists s O (Or.inl rfl) (Or.inr rfl) (Or.inl rfl), JPost.of_false (hL rfl)⟩

theorem ret_spec (l : Bool) : CSpec (compile .ret) l true :=
  fun O s _ hJ _ => ⟨Step.toLists s O (Or.inl rfl) (Or.inl rfl) (Or.inr rfl),
    fun h => Or.inr (Or.inl ⟨rfl, rfl, by rw [hJ h]; rfl⟩)⟩

theorem awaitF_spec (l : Bool) : CSpec (compile .awaitF) l false := by
  intro O s hl hJ _
  unfold compile
  split
  · rename_i hO
    exact ⟨(Step.refl s O).shrink (by simp), JPost.of_false (atStart_nil_false hJ hO)⟩
  · have h1 := enterState_step O s hl (fun h => by simp [hJ h])
    exact ⟨h1.shrink (by simp), fun _ => Or.inr (Or.inr ⟨rfl, rfl⟩)⟩

theorem compile_await_none (k : Stmt) (O : List Nat) (s : CSt) :
    compile (.await none k) O s =
      if O.isEmpty then compile k [] s else compile k [(enterState O s).2.1] (enterState O s).2.2 := rfl

theorem compile_await_some (c' : Nat) (k : Stmt) (O : List Nat) (s : CSt) :
    compile (.await (some c') k) O s =
      if O.isEmpty then compile k [] s
      else compile k [(enterState O s).2.2.next] (itePre c' (enterState O s).2.1 (enterState O s).2.2) := rfl

theorem compile_await_nil (cc : Option Nat) (k : Stmt) (s : CSt) : compile (.await cc k) [] s = compile k [] s := by
  cases cc <;> rfl

theorem compile_ite (cc : Nat) (t e k : Stmt) (O : List Nat) (s : CSt) :
    compile (.ite cc t e k) O s =
      if retAlways t && retAlways e then iteLoop cc (compile t) (compile e) O s []
      else compile k (iteLoop cc (compile t) (compile e) O s []).1 (iteLoop cc (compile t) (compile e) O s []).2 := rfl

theorem ite_spec (cc : Nat) (t e k : Stmt) (l c : Bool) (ht : CSpec (compile t) l c) (he : CSpec (compile e) l c)
    (hk : CSpec (compile k) l c) : CSpec (compile (.ite cc t e k)) l c := by
  intro O s hl hJ hL
  obtain ⟨T, hmem, hA⟩ := iteLoop_step cc (compile t) (compile e) ht.br he.br O s [] hl hJ
  have hA' : (iteLoop cc (compile t) (compile e) O s []).2.atStart = false := by
    by_cases hO : O = []
    · subst hO
      exact atStart_nil_false hJ rfl
    · exact hA hO
  have TW := T.weaken (O' := (iteLoop cc (compile t) (compile e) O s []).1) (fun _ h => h)
    (fun o ho => (hmem o ho).resolve_left (by simp))
  rw [compile_ite]
  split
  · exact ⟨TW, JPost.of_false hA'⟩
  · exact hk.after hl TW hA'

theorem compile_call (b k : Stmt) (O : List Nat) (s : CSt) :
    compile (.call b k) O s =
      if O.isEmpty then compile k [] s
      else compile k ((compile b O { s with ret := [] }).1 ++ (compile b O { s with ret := [] }).2.ret)
        { (compile b O { s with ret := [] }).2 with ret := s.ret } := rfl

theorem compile_call_nil (b k : Stmt) (s : CSt) : compile (.call b k) [] s = compile k [] s := rfl

/-- state in which the body of a call is translated -/
def cIn (s : CSt) : CSt := { s with ret := [] }

/-- state in which the continuation of a call is translated -/
def cOut (b : Stmt) (O : List Nat) (s : CSt) : CSt := { (compile b O (cIn s)).2 with ret := s.ret }

/-- open blocks after the body: still open or returned -/
def cRes (b : Stmt) (O : List Nat) (s : CSt) : List Nat := (compile b O (cIn s)).1 ++ (compile b O (cIn s)).2.ret

theorem compile_callG (b k : Stmt) (O : List Nat) (s : CSt) (hO : O ≠ []) :
    compile (.call b k) O s = compile k (cRes b O s) (cOut b O s) := by
  rw [compile_call, if_neg (by simpa using hO)]
  rfl

/-- the body of a call, seen from the caller: what it returned is open again -/
theorem call_body (b : Stmt) (hb : CSpec (compile b) false true) (O : List Nat) (s : CSt) (hl : Hlt s O)
    (hJ : s.atStart = true → O = [0]) :
    Step (cIn s) O (compile b O (cIn s)).2 (compile b O (cIn s)).1 ∧ Step s O (cOut b O s) (cRes b O s) ∧
    ((cOut b O s).atStart = true → cRes b O s = [0]) := by
  obtain ⟨B, hj⟩ := hb O (cIn s) hl hJ (fun h => nomatch h)
  have c1 : SameCore (cIn s) s := (SameCore.setLists s _ _ _).symm
  have c2 : SameCore (compile b O (cIn s)).2 (cOut b O s) :=
    SameCore.setLists _ _ _ _
  have B' := Step.relist c1 c2 B B.brk_r B.cont_r (Adds.of_eq rfl)
  refine ⟨B, B'.weaken (fun _ h => h) (fun o ho => ?_), fun h => ?_⟩
  · rcases List.mem_append.mp ho with h | h
    · exact B'.open_r o h
    · exact InR.same c1 c2 (Adds.of_nil B.ret_r o h)
  · show (compile b O (cIn s)).1 ++ (compile b O (cIn s)).2.ret = [0]
    rcases hj h with ⟨h1, h2⟩ | ⟨h1, _, h2⟩ | ⟨_, h2⟩
    · rw [h1, h2]; rfl
    · rw [h1, h2]; rfl
    · cases h2

theorem call_spec (b k : Stmt) (l c : Bool) (hb : CSpec (compile b) false true) (hk : CSpec (compile k) l c) :
    CSpec (compile (.call b k)) l c := by
  intro O s hl hJ hL
  by_cases hO : O = []
  · subst hO
    rw [compile_call_nil]
    exact hk [] s hl hJ hL
  · rw [compile_callG b k O s hO]
    obtain ⟨_, BW, hJ2⟩ := call_body b hb O s hl hJ
    obtain ⟨K, hjk⟩ := hk _ _ (BW.hlt hl) hJ2 (fun h => BW.atStart_false hl.2 (hL h))
    exact ⟨BW.trans hl.1 K, hjk⟩

/- The stages of `compile (.while_ cc b k) O s`, in the order of the `While` branch of `_apply_impl`.  The digits in
   the names of facts about them (`A1`, `next4`, `L5`, `frame5`, `nX` ...) are these stage numbers.
     wS0  after `enterState` (plus the `Nop` at the start); `wIdx` / `wHb`: index / root block of the head state
     wS1  the body block `wBody` created; `wS1c`: the same with empty break / continue lists, where the body is translated
     wR   (2) result of translating the body
     wS3  back edges to the head state inserted at the front of the blocks the body left open
     wS4  break / continue lists of the enclosing loop restored
     wCl  (5) result of the `continue` loop; `wRb`: its new exit blocks ++ the `break` blocks of the body
     wSX  the loop item `wItem` appended to the head block (and the exit block created): `k` is translated from here,
          open blocks `wOk` -/

/-- index of the loop head state -/
def wIdx (O : List Nat) (s : CSt) : Nat := (enterState O s).1

/-- root block of the loop head state -/
def wHb (O : List Nat) (s : CSt) : Nat := (enterState O s).2.1

/-- state after entering the head state (with the `Nop` marker at the start) -/
def wS0 (O : List Nat) (s : CSt) : CSt :=
  if s.atStart then (enterState O s).2.2.append (wHb O s) .nop else (enterState O s).2.2

/-- the body block -/
def wBody (O : List Nat) (s : CSt) : Nat := (wS0 O s).next

def wS1 (O : List Nat) (s : CSt) : CSt := ((wS0 O s).newBlock (some (wHb O s))).2

/-- result of translating the body with fresh break / continue lists -/
def wR (b : Stmt) (O : List Nat) (s : CSt) : List Nat × CSt :=
  compile b [wBody O s] { wS1 O s with cont := [], brk := [] }

/-- back edges inserted -/
def wS3 (b : Stmt) (O : List Nat) (s : CSt) : CSt := (wR b O s).2.addfrontAll (wR b O s).1 (wIdx O s)

/-- lists of the enclosing loop restored -/
def wS4 (b : Stmt) (O : List Nat) (s : CSt) : CSt := { wS3 b O s with cont := (wS1 O s).cont, brk := (wS1 O s).brk }

def wCl (c : Option Nat) (b : Stmt) (O : List Nat) (s : CSt) : List Nat × CSt :=
  contLoop c (wBody O s) (wS3 b O s).cont (wS4 b O s) []

def wRb (c : Option Nat) (b : Stmt) (O : List Nat) (s : CSt) : List Nat := (wCl c b O s).1 ++ (wS3 b O s).brk

/-- the state in which the body of a loop is translated -/
def wS1c (O : List Nat) (s : CSt) : CSt := { wS1 O s with cont := [], brk := [] }

theorem wR_eq (b : Stmt) (O : List Nat) (s : CSt) : wR b O s = compile b [wBody O s] (wS1c O s) := rfl

theorem wS0_step (O : List Nat) (s : CSt) (hl : Hlt s O) (hJ : s.atStart = true → O = [0]) :
    Step s O (wS0 O s) (wHb O s :: O) ∧ (wS0 O s).atStart = false ∧ SameLists s (wS0 O s) := by
  have T0 := enterState_step O s hl (fun h => by simp [hJ h])
  have L0 := enterState_sameLists O s
  unfold wS0 wHb
  cases hst : s.atStart with
  | true =>
    rw [if_pos rfl]
    have hx := HeapExt.append (enterState O s).2.2 ((enterState O s).2.1 :: O) (enterState O s).2.1
      (List.mem_cons_self ..) .nop
    refine ⟨T0.trans hl.1 (hx.step (T0.hlt hl).1), ?_, L0.trans hx.sameLists⟩
    rw [enterState_start O s hst]
    exact append_atStart s 0 .nop (fun _ => rfl)
  | false =>
    rw [if_neg Bool.false_ne_true]
    exact ⟨T0, T0.atStart_false hl.2 hst, L0⟩

theorem wS1_step (O : List Nat) (s : CSt) (hl : Hlt s O) (hJ : s.atStart = true → O = [0]) :
    Step s O (wS1 O s) (wBody O s :: wHb O s :: O) ∧ (wS1 O s).atStart = false ∧ SameLists s (wS1 O s) := by
  obtain ⟨T, hA, L⟩ := wS0_step O s hl hJ
  have hl0 := T.hlt hl
  have N := Step.newBlock (wS0 O s) (wHb O s :: O) hl0.1 (some (wHb O s)) (fun _ h => Option.some.inj h ▸ List.mem_cons_self ..)
  exact ⟨T.trans hl.1 N, N.atStart_false hl0.2 hA, L⟩

/-- the loop head state exists in every later state list -/
theorem wIdx_lt (O : List Nat) (s : CSt) {n : Nat} (h0 : 0 < n) (hle : (wS1 O s).states.length ≤ n) : wIdx O s < n := by
  cases hst : s.atStart with
  | true => rw [wIdx, enterState_start O s hst]; exact h0
  | false =>
    have e1 : (wS1 O s).states = s.states ++ [s.next] := by
      show (wS0 O s).states = _
      rw [wS0, hst, enterState_nostart O s hst]
      exact CSt.addfrontAll_states _ _ _
    rw [e1, List.length_append] at hle
    rw [wIdx, enterState_nostart O s hst]
    exact hle

theorem wS4_step (b : Stmt) (c : Bool) (hb : CSpec (compile b) true c) (O : List Nat) (s : CSt) (hl : Hlt s O)
    (hJ : s.atStart = true → O = [0]) :
    Step (wS1 O s) [wBody O s] (wS4 b O s) (wR b O s).1 ∧
    (∀ o ∈ (wS3 b O s).cont, InR (wS1 O s) [wBody O s] (wS4 b O s) o) ∧
    (∀ o ∈ (wS3 b O s).brk, InR (wS1 O s) [wBody O s] (wS4 b O s) o) ∧
    (wS4 b O s).atStart = false := by
  obtain ⟨T1, hA1, _⟩ := wS1_step O s hl hJ
  have hl1 := T1.hlt hl
  have hlb : Hlt (wS1c O s) [wBody O s] := ⟨fun o ho => hl1.1 o (List.mem_singleton.mp ho ▸ List.mem_cons_self ..), hl1.2⟩
  have B : Step _ _ (wR b O s).2 (wR b O s).1 := hb.br _ _ hlb hA1
  have BF : Step _ _ (wS3 b O s) _ :=
    B.trans hlb.1 ((HeapExt.addfrontAll _ (wIdx O s) _ _ (fun _ h => h)
      (fun h0 => wIdx_lt O s h0 B.states_mono.length_le)).step (B.hlt hlb).1)
  -- back to the lists of the enclosing loop: nothing is added to them, the body's additions are kept aside
  have c1 : SameCore (wS1c O s) (wS1 O s) := (SameCore.setLists _ _ _ _).symm
  have c3 : SameCore (wS3 b O s) (wS4 b O s) :=
    SameCore.setLists _ _ _ _
  have S := Step.relist c1 c3 BF (Adds.of_eq rfl) (Adds.of_eq rfl) BF.ret_r
  exact ⟨S, fun o ho => InR.same c1 c3 (Adds.of_nil BF.cont_r o ho), fun o ho => InR.same c1 c3 (Adds.of_nil BF.brk_r o ho),
    S.atStart_false hl1.2 hA1⟩

theorem wCl_step (cc : Option Nat) (b : Stmt) (c : Bool) (hb : CSpec (compile b) true c) (O : List Nat) (s : CSt)
    (hl : Hlt s O) (hJ : s.atStart = true → O = [0]) :
    Step s O (wCl cc b O s).2 (wHb O s :: wRb cc b O s) ∧ (wCl cc b O s).2.atStart = false := by
  obtain ⟨T1, _⟩ := wS1_step O s hl hJ
  have hl1 := T1.hlt hl
  obtain ⟨S, hC, hB, hA4⟩ := wS4_step b c hb O s hl hJ
  have SW := S.widen (O' := wHb O s :: ((wS3 b O s).cont ++ (wS3 b O s).brk)) (by simp) hl1.1
    (fun o ho => (List.mem_cons.mp ho).imp (by simp [·]) (fun h => (List.mem_append.mp h).elim (hC o) (hB o)))
  have hl4 := SW.hlt hl1
  obtain ⟨C, hmem⟩ := contLoop_step cc (wBody O s) (wS3 b O s).cont (wS4 b O s) []
    ⟨fun o ho => hl4.1 o (by simp [ho]), hl4.2⟩
  have CW := C.widen (O' := wHb O s :: wRb cc b O s) (fun x hx => by simp [hx]) hl4.1 (fun o ho => by
    rcases List.mem_cons.mp ho with h | h
    · exact Or.inl (by simp [h])
    · rcases List.mem_append.mp h with h | h
      · exact Or.inr ((hmem o h).resolve_left (by simp))
      · exact Or.inl (by simp [h]))
  exact ⟨(T1.trans hl.1 SW).trans hl.1 CW, CW.atStart_false hl4.2 hA4⟩

/-- the item appended to the head block -/
def wItem (cc : Option Nat) (b : Stmt) (O : List Nat) (s : CSt) : Item :=
  match cc with
  | none => .sub (wBody O s)
  | some c' => .ite c' (wBody O s) (wCl cc b O s).2.next

/-- state in which the continuation of the loop is translated -/
def wSX (cc : Option Nat) (b : Stmt) (O : List Nat) (s : CSt) : CSt :=
  match cc with
  | none => (wCl cc b O s).2.append (wHb O s) (wItem cc b O s)
  | some _ => ((wCl cc b O s).2.newBlock (some (wHb O s))).2.append (wHb O s) (wItem cc b O s)

/-- open blocks after the loop -/
def wOk (cc : Option Nat) (b : Stmt) (O : List Nat) (s : CSt) : List Nat :=
  match cc with
  | none => wRb cc b O s
  | some _ => (wCl cc b O s).2.next :: wRb cc b O s

theorem compile_while (cc : Option Nat) (b k : Stmt) (O : List Nat) (s : CSt) :
    compile (.while_ cc b k) O s = compile k (wOk cc b O s) (wSX cc b O s) := by
  cases cc <;> rfl

/-- the state in which the continuation of an `await` is translated -/
def aS (cc : Option Nat) (O : List Nat) (s : CSt) : CSt :=
  match cc with
  | none => (enterState O s).2.2
  | some c' => itePre c' (enterState O s).2.1 (enterState O s).2.2

/-- the block that is open there -/
def aB (cc : Option Nat) (O : List Nat) (s : CSt) : Nat :=
  match cc with
  | none => (enterState O s).2.1
  | some _ => (enterState O s).2.2.next

theorem compile_await (cc : Option Nat) (k : Stmt) (O : List Nat) (s : CSt) (hO : O ≠ []) :
    compile (.await cc k) O s = compile k [aB cc O s] (aS cc O s) := by
  have hO' : O.isEmpty = false := by simpa using hO
  cases cc with
  | none => rw [compile_await_none, hO']; rfl
  | some c' => rw [compile_await_some, hO']; rfl

/-- entering the new state of an `await`: from the state after `enterState`, and from `s` -/
theorem await_enter (cc : Option Nat) (O : List Nat) (s : CSt) (hl : Hlt s O) (hJ : s.atStart = true → O = [0]) :
    Step (enterState O s).2.2 [(enterState O s).2.1] (aS cc O s) [aB cc O s] ∧
    Step s O (aS cc O s) [aB cc O s] ∧ SameLists s (aS cc O s) ∧ ((aS cc O s).atStart = true → aB cc O s = 0) := by
  have T0 := enterState_step O s hl (fun h => by simp [hJ h])
  have T0' : Step s O (enterState O s).2.2 [(enterState O s).2.1] :=
    T0.shrink (fun o ho => List.mem_singleton.mp ho ▸ List.mem_cons_self ..)
  have hst0 : (enterState O s).2.2.atStart = true → (enterState O s).2.1 = 0 := fun h => by
    cases hst : s.atStart with
    | true => rw [enterState_start O s hst]
    | false => rw [T0.atStart_false hl.2 hst] at h; cases h
  cases cc with
  | none => exact ⟨Step.refl _ _, T0', enterState_sameLists O s, hst0⟩
  | some c' =>
    have hlb := T0'.hlt hl
    have hnb := hlb.1 _ (List.mem_singleton.mpr rfl)
    have T1 := itePre_step c' _ _ hnb
    have T1' : Step _ _ (aS (some c') O s) [aB (some c') O s] := T1.shrink (fun o ho => by simp [aB] at ho; simp [ho])
    exact ⟨T1', T0'.trans hl.1 T1', (enterState_sameLists O s).trans (itePre_sameLists _ _ _),
      fun h => nomatch (itePre_atStart c' _ _ hnb hlb.2 hst0).symm.trans h⟩

theorem await_spec (cc : Option Nat) (k : Stmt) (l c : Bool) (hk : CSpec (compile k) l c) :
    CSpec (compile (.await cc k)) l c := by
  intro O s hl hJ hL
  by_cases hO : O = []
  · subst hO
    rw [compile_await_nil]
    exact hk [] s hl hJ hL
  · rw [compile_await cc k O s hO]
    obtain ⟨_, T, L, hst⟩ := await_enter cc O s hl hJ
    obtain ⟨h2, hj⟩ := hk _ _ (T.hlt hl) (fun h => by rw [hst h]) (fun h => T.atStart_false hl.2 (hL h))
    exact ⟨T.trans hl.1 h2, fun h => by have := hj h; rwa [L.2.2] at this⟩

theorem wSX_bad (cc : Option Nat) (b : Stmt) (O : List Nat) (s : CSt) : (wSX cc b O s).bad = (wCl cc b O s).2.bad := by
  cases cc with
  -- with the stage as an atom `rfl` does not unfold `contLoop`
  | none => rw [wSX]; generalize (wCl none b O s).2 = X; rfl
  | some c' => rw [wSX]; generalize (wCl (some c') b O s).2 = X; rfl

/-- the step from `wCl` to `wSX`: it keeps the lists, gives the head block one item and creates at most the exit block -/
theorem wSX_facts (cc : Option Nat) (b : Stmt) (O : List Nat) (s : CSt)
    (hlw : Hlt (wCl cc b O s).2 (wHb O s :: wRb cc b O s)) (hA : (wCl cc b O s).2.atStart = false) :
    Step (wCl cc b O s).2 (wHb O s :: wRb cc b O s) (wSX cc b O s) (wOk cc b O s) ∧
    SameLists (wCl cc b O s).2 (wSX cc b O s) ∧ (wSX cc b O s).atStart = false ∧
    (wCl cc b O s).2.next ≤ (wSX cc b O s).next ∧
    (∀ y, y ≠ wHb O s → y < (wCl cc b O s).2.next → (wSX cc b O s).heap y = (wCl cc b O s).2.heap y) ∧
    (wSX cc b O s).heap (wHb O s) = { (wCl cc b O s).2.heap (wHb O s) with
      items := ((wCl cc b O s).2.heap (wHb O s)).items ++ [wItem cc b O s] } ∧
    (∀ y ∈ wOk cc b O s, y ∈ wRb cc b O s ∨
      (y = (wCl cc b O s).2.next ∧ (wSX cc b O s).heap y = {} ∧ (wSX cc b O s).root y = (wCl cc b O s).2.root (wHb O s))) := by
  -- with the stages as atoms their projections are compared without unfolding them
  cases cc with
  | none =>
    simp only [wSX, wOk]
    generalize (wCl none b O s).2 = X at hlw hA ⊢
    generalize wHb O s = h at hlw ⊢
    have S := (HeapExt.append X _ h (List.mem_cons_self ..) (wItem none b O s)).step hlw.1
    exact ⟨S.shrink (fun o ho => List.mem_cons_of_mem _ ho), ⟨rfl, rfl, rfl⟩,
      S.atStart_false hlw.2 hA, Nat.le_refl _, fun y hy _ => CSt.append_heap_ne _ _ hy,
      CSt.append_heap_self _ _ _, fun y hy => Or.inl hy⟩
  | some c' =>
    simp only [wSX, wOk]
    generalize (wCl (some c') b O s).2 = X at hlw hA ⊢
    generalize wHb O s = h at hlw ⊢
    generalize wItem (some c') b O s = it
    have hne : h ≠ X.next := Nat.ne_of_lt (hlw.1 _ (List.mem_cons_self ..))
    have N := Step.newBlock X _ hlw.1 (some h) (fun _ e => Option.some.inj e ▸ List.mem_cons_self ..)
    have NS := N.trans hlw.1 ((HeapExt.append _ _ h (by simp) it).step (N.hlt hlw).1)
    refine ⟨NS.shrink (fun o ho => ?_), ⟨rfl, rfl, rfl⟩, NS.atStart_false hlw.2 hA, Nat.le_succ _,
      ?_, ?_, ?_⟩
    · rcases List.mem_cons.mp ho with e | e
      · exact e ▸ List.mem_cons_self ..
      · exact List.mem_cons_of_mem _ (List.mem_cons_of_mem _ e)
    · intro y hy hlt
      exact (CSt.append_heap_ne _ _ hy).trans (CSt.newBlock_heap_old _ _ (Nat.ne_of_lt hlt))
    · rw [CSt.append_heap_self, CSt.newBlock_heap_old _ _ hne]
    · intro y hy
      rcases List.mem_cons.mp hy with e | e
      · subst e
        exact Or.inr ⟨rfl, (CSt.append_heap_ne _ _ hne.symm).trans (CSt.newBlock_heap_new _ _), CSt.newBlock_root_new X (some h)⟩
      · exact Or.inl e

theorem while_spec (cc : Option Nat) (b k : Stmt) (l c : Bool) (hb : CSpec (compile b) true c)
    (hk : CSpec (compile k) l c) : CSpec (compile (.while_ cc b k)) l c := by
  intro O s hl hJ hL
  obtain ⟨W, hA⟩ := wCl_step cc b c hb O s hl hJ
  have hlw := W.hlt hl
  obtain ⟨X, _, hAx, _⟩ := wSX_facts cc b O s hlw hA
  rw [compile_while]
  exact hk.after hl (W.trans hl.1 X) hAx

theorem compile_act_single (a : Nat) (k : Stmt) (x : Nat) (s : CSt) :
    compile (.act a k) [x] s = compile k [x] (s.append x (.act a)) := rfl

theorem mergeAcc_nil_nil (acc : List Nat) (b tb eb : Nat) : mergeAcc acc b tb eb [] [] = acc := by
  simp [mergeAcc, anyTrans, allTrans, insIds]

theorem iteLoop_open_nil (c : Nat) (ft fe : List Nat → CSt → List Nat × CSt) (ht : ∀ O s, (ft O s).1 = [])
    (he : ∀ O s, (fe O s).1 = []) : ∀ (bs : List Nat) (s : CSt) (acc : List Nat), (iteLoop c ft fe bs s acc).1 = acc := by
  intro bs
  induction bs with
  | nil => intro s acc; rfl
  | cons b bs ih =>
    intro s acc
    rw [iteLoop_cons, ht, he, mergeAcc_nil_nil]
    exact ih _ _

theorem retAlways_open_nil : ∀ (t : Stmt), retAlways t = true → ∀ O s, (compile t O s).1 = [] := by
  intro t
  induction t with
  | skip | awaitF | brk | cont => intro h; cases h
  | ret => intro _ O s; rfl
  | act a k ih => intro h O s; exact ih h _ _
  | await cc k ih =>
    intro h O s
    cases cc with
    | none => rw [compile_await_none]; split <;> exact ih h _ _
    | some c' => rw [compile_await_some]; split <;> exact ih h _ _
  | ite c t e k iht ihe ihk =>
    intro h O s
    rw [compile_ite]
    split
    · rename_i hr
      simp only [Bool.and_eq_true] at hr
      exact iteLoop_open_nil c _ _ (iht hr.1) (ihe hr.2) O s []
    · rename_i hr
      exact ihk (((Bool.or_eq_true _ _).mp h).resolve_left hr) _ _
  | while_ cc b k _ ihk =>
    intro h O s
    rw [compile_while]
    exact ihk h _ _
  | call b k _ ihk =>
    intro h O s
    rw [compile_call]
    split <;> exact ihk h _ _

end CohdlVerif.C01
