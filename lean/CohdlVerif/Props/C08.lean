import CohdlVerif.Lemmas.C08Lemmas

/-! C08 - property theorems.
  `C08.safe_sound`: the definite-assignment certificate is sound for every process skeleton: if `safe c [] `
  succeeds then NO execution path of an activation reads a temporary before writing it (for every choice
  oracle, i.e. every combination of branch conditions, reachable or not).
  `C08.detect_sound`: the compiler's own analysis, as fixed by commit fcb69e1, accepts only path-safe bodies;
  proved through `detect_safe` (Lemmas/C08Lemmas.lean): what `detect` accepts, the certificate accepts.
-/
open CohdlVerif.C08

/-- the invariant behind the certificate: everything in `D` has been written (`W`) -/
theorem C08.safe_sound_gen (c : TCode) : ∀ (D W : List Nat) (cs : List Bool) (D' : List Nat),
    (∀ t ∈ D, t ∈ W) → safe c D = some D' →
    ∃ W' cs', run c cs W = some (W', cs') ∧ ∀ t ∈ D', t ∈ W' := by
  induction c with
  | nil =>
    intro D W cs D' h hs
    exact ⟨W, cs, rfl, Option.some.inj hs ▸ h⟩
  | write t k ih =>
    intro D W cs D' h hs
    exact ih (t :: D) (t :: W) cs D' (fun x hx => (List.mem_cons.mp hx).elim
      (fun e => e ▸ List.mem_cons_self) (fun hx => List.mem_cons_of_mem _ (h x hx))) hs
  | read t k ih =>
    intro D W cs D' h hs
    simp only [safe] at hs
    split at hs
    · next ht =>
      rw [run, if_pos (h t ht)]
      exact ih D W cs D' h hs
    · cases hs
  | alt a b k iha ihb ihk =>
    intro D W cs D' h hs
    simp only [safe] at hs
    split at hs
    · next Da Db ha hb =>
      rw [run_alt]
      obtain ⟨W1, cs1, hr, hw⟩ : ∃ W1 cs1, run (bif cs.headD false then a else b) cs.tail W = some (W1, cs1) ∧
          ∀ t ∈ inter Da Db, t ∈ W1 := by
        cases cs.headD false
        · obtain ⟨W1, cs1, hr, hw⟩ := ihb D W cs.tail Db h hb
          exact ⟨W1, cs1, hr, fun t ht => hw t (mem_inter.mp ht).2⟩
        · obtain ⟨W1, cs1, hr, hw⟩ := iha D W cs.tail Da h ha
          exact ⟨W1, cs1, hr, fun t ht => hw t (mem_inter.mp ht).1⟩
      rw [hr]
      exact ihk (inter Da Db) W1 cs1 D' hw hs
    · cases hs

/-- C08, certificate form: an accepted skeleton never reads a temporary before writing it, on any path. -/
theorem C08.safe_sound (c : TCode) (D' : List Nat) (h : safe c [] = some D') : PathSafe c := by
  intro cs
  obtain ⟨W', cs', hr, -⟩ := C08.safe_sound_gen c [] [] cs D' (fun _ ht => nomatch ht) h
  rw [hr]
  rfl

/-- non-vacuity: a body that defines a temporary in both branches and uses it afterwards is certified,
    one that defines it in one branch only is not (and indeed has a faulting path) -/
example : (safe (.alt (.write 1 .nil) (.write 1 .nil) (.read 1 .nil)) []).isSome = true := by decide
example : (safe (.alt (.write 1 .nil) .nil (.read 1 .nil)) []).isSome = false := by decide
example : run (.alt (.write 1 .nil) .nil (.read 1 .nil)) [false] [] = none := by decide

/-- the defect repaired by commit fcb69e1, on the skeleton of
    `match sel: case "00": t = a|b; case "01": pass` followed by a read of `t`:
    the (fixed) mirror of the compiler's analysis rejects it, and rightly: the path on which neither branch matches
    reads `t` unwritten. -/
theorem C08.case_first_branch_only_rejected :
    accepts (.alt (.write 1 .nil) (.alt .nil .nil .nil) (.read 1 .nil)) = false ∧
    run (.alt (.write 1 .nil) (.alt .nil .nil .nil) (.read 1 .nil)) [false, false] [] = none := by
  decide

/-- C08 for the compiler's own analysis (mirror of `detect_uninitialized_temporaries` as fixed by fcb69e1):
    every process skeleton it accepts is path-safe - for every control-flow shape and every placement of
    definitions and uses, on every path of every activation no temporary is read before it is written.
    (Through `detect_safe`: whatever `detect` accepts, the independent certificate `safe` accepts too.) -/
theorem C08.detect_sound (c : TCode) (h : accepts c = true) : PathSafe c := by
  unfold accepts at h
  cases hd : detect c ⟨[], []⟩ with
  | none =>
    rw [hd] at h
    cases h
  | some r =>
    obtain ⟨D', hs, -⟩ := detect_safe c ⟨[], []⟩ r.1 r.2 [] hd (fun _ ht => nomatch ht.1)
    exact C08.safe_sound c D' hs

/-- non-vacuity of `detect_sound`: an accepted body with a helper-style definition in both branches -/
example : accepts (.alt (.write 1 .nil) (.write 1 .nil) (.read 1 .nil)) = true := by decide
