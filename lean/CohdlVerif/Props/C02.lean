import CohdlVerif.Lemmas.C02Lemmas
import CohdlVerif.Lemmas.C02Cases

/-!
  C02 - property theorems.  Model: CohdlVerif/Model/C02.lean (`typeOf`, `evalSpec`, `lower`, `evalV`),
  helper lemmas: CohdlVerif/Lemmas/C02Lemmas.lean, CohdlVerif/Lemmas/C02Cases.lean.

  The property on the model, at full strength and for EVERY constructor of `Expr`:

      C02.lower_correct :  typeOf e = .ok t → defined e env = true →
                           InRange t (evalSpec e env) ∧ evalV (lower e) env = inj t (evalSpec e env)
                                                                        (all e, all widths, all env)

  i.e. the VHDL the back end prints for `e`, read with IEEE numeric_std / std_logic_1164, yields the documented
  value with the documented type and width (`inj t` fixes kind and length of the VHDL value); `defined` excludes
  only division by zero.  It is proved by induction over `Expr` from one value-level lemma per operator family
  (`C02.<family>_correct`, all widths and all values) and one induction case per constructor (`C02.case_<constructor>`):
  the case obtains its operands from the typing rule and the induction hypotheses (`Good.sub1` .. `Good.sub3`) and
  hands their values to the family lemma.
-/
open CohdlVerif.C02

namespace CohdlVerif.C02

def isDivOp (op : AOp) : Prop := op = .div ∨ op = .mod ∨ op = .rem

end CohdlVerif.C02

theorem CohdlVerif.C02.isDiv_ofA {op : AOp} (h : (VBin.ofA op).isDiv = true) : isDivOp op := by
  cases op <;> simp [isDivOp, VBin.ofA, VBin.isDiv] at h ⊢

/-- numeric_std arithmetic on two vectors of one kind that hold the values `x` and `y`: the operator on the values,
    wrapped to the result length (the resize of `+` and `-` to the larger length preserves the values) -/
theorem CohdlVerif.C02.arithVecVec_ofA (op : AOp) (k : VK) {wa wb : Nat} {x y : Int} (hwa : 1 ≤ wa) (hwb : 1 ≤ wb)
    (hx : dec k wa (enc wa x) = x) (hy : dec k wb (enc wb y) = y) (hd : isDivOp op → y ≠ 0) :
    arithVecVec (.ofA op) k wa (enc wa x) wb (enc wb y) =
      .vec k (arithVV op wa wb) (enc (arithVV op wa wb) (aop op x y)) := by
  have ra := dec_vresize k hwa (Nat.le_max_left wa wb) (enc_lt wa x)
  have rb := dec_vresize k hwb (Nat.le_max_right wa wb) (enc_lt wb y)
  have hz : ¬ ((VBin.ofA op).isDiv && enc wb y == 0) = true := by
    intro h
    rw [Bool.and_eq_true, beq_iff_eq] at h
    refine hd (isDiv_ofA h.1) ?_
    rw [← hy, h.2, dec_zero]
  rw [← vvW_ofA, ← nsOp_ofA]
  unfold arithVecVec
  rw [if_neg hz]
  cases op <;> simp only [VBin.ofA, vvW, ra, rb, hx, hy]

/-- ... and on a vector and an integer (`left`: the integer is the left operand): the integer is first converted
    to the vector's length, which preserves it when it is representable -/
theorem CohdlVerif.C02.arithVecInt_ofA (op : AOp) {k : VK} {w : Nat} {x i : Int} (left : Bool)
    (hx : dec k w (enc w x) = x) (hi : dec k w (enc w i) = i) (hn : k = .uns → 0 ≤ i)
    (hd : isDivOp op → (if left then x else i) ≠ 0) :
    arithVecInt (.ofA op) k w (enc w x) i left =
      .vec k (arithVI op w) (enc (arithVI op w) (if left then aop op i x else aop op x i)) := by
  have hneg : ¬ (k == .uns && decide (i < 0)) = true := by
    intro h
    rw [Bool.and_eq_true, beq_iff_eq, decide_eq_true_eq] at h
    exact absurd (hn h.1) (by omega)
  have hz : (VBin.ofA op).isDiv = true → ¬ ((if left then x else i) == 0) = true :=
    fun h h0 => hd (isDiv_ofA h) (beq_iff_eq.mp h0)
  simp only [← nsOp_ofA]
  unfold arithVecInt
  rw [if_neg hneg, hx]
  cases op <;> simp only [VBin.ofA, VBin.isDiv, arithVI, hi, ↓reduceIte, Bool.false_eq_true] <;>
    exact if_neg (hz rfl)

theorem CohdlVerif.C02.vbin_ofA_vec_vec (op : AOp) {k : VK} (hk : k ≠ .slv) (wa pa wb pb : Nat) :
    vbin (.ofA op) (.vec k wa pa) (.vec k wb pb) = arithVecVec (.ofA op) k wa pa wb pb := by
  cases op <;> simp [vbin, VBin.ofA, hk]

theorem CohdlVerif.C02.vbin_ofA_vec_int (op : AOp) {k : VK} (hk : k ≠ .slv) (w p : Nat) (i : Int) :
    vbin (.ofA op) (.vec k w p) (.int i) = arithVecInt (.ofA op) k w p i false ∧
    vbin (.ofA op) (.int i) (.vec k w p) = arithVecInt (.ofA op) k w p i true := by
  cases op <;> simp [vbin, VBin.ofA, hk]

/-- Unsigned op Unsigned: operands zero-extended, result wraps modulo 2^(documented width) -/
theorem C02.arith_uns_uns (op : AOp) (wa wb : Nat) (x y : Int)
    (hx : InRange (.uns wa) (.n x)) (hy : InRange (.uns wb) (.n y)) (hd : isDivOp op → y ≠ 0) :
    vbin (.ofA op) (inj (.uns wa) (.n x)) (inj (.uns wb) (.n y))
      = inj (.uns (arithVV op wa wb)) (.n (wrapU (arithVV op wa wb) (aop op x y))) := by
  simp only [inj, enc_wrapU, vbin_ofA_vec_vec op (k := .uns) nofun]
  exact arithVecVec_ofA op .uns hx.1 hy.1 (dec_enc (t := .uns wa) rfl hx) (dec_enc (t := .uns wb) rfl hy) hd

example : InRange (.uns 4) (.n 13) ∧ InRange (.uns 3) (.n 5) := by
  constructor <;> simp [InRange]

/-- Signed op Signed: operands sign-extended, result wraps into the two's complement range -/
theorem C02.arith_sgn_sgn (op : AOp) (wa wb : Nat) (x y : Int)
    (hx : InRange (.sgn wa) (.n x)) (hy : InRange (.sgn wb) (.n y)) (hd : isDivOp op → y ≠ 0) :
    vbin (.ofA op) (inj (.sgn wa) (.n x)) (inj (.sgn wb) (.n y))
      = inj (.sgn (arithVV op wa wb)) (.n (wrapS (arithVV op wa wb) (aop op x y))) := by
  simp only [inj, enc_wrapS, vbin_ofA_vec_vec op (k := .sgn) nofun]
  exact arithVecVec_ofA op .sgn hx.1 hy.1 (dec_enc (t := .sgn wa) rfl hx) (dec_enc (t := .sgn wb) rfl hy) hd

example : InRange (.sgn 4) (.n (-8)) ∧ InRange (.sgn 3) (.n (-1)) := by
  constructor <;> simp [InRange]

/-- Unsigned op Python int (int representable in the vector's width) -/
theorem C02.arith_uns_int (op : AOp) (w : Nat) (x k : Int)
    (hx : InRange (.uns w) (.n x)) (hk : fits (.uns w) k = true) (hd : isDivOp op → k ≠ 0) :
    vbin (.ofA op) (inj (.uns w) (.n x)) (inj .int (.n k))
      = inj (.uns (arithVI op w)) (.n (wrapU (arithVI op w) (aop op x k))) := by
  have hk := fits_inRange (t := .uns w) rfl hx.1 hk
  simp only [inj, enc_wrapU, (vbin_ofA_vec_int op (k := .uns) nofun _ _ _).1]
  exact arithVecInt_ofA op (k := .uns) false (dec_enc (t := .uns w) rfl hx) (dec_enc (t := .uns w) rfl hk) (fun _ => hk.2.1) hd

/-- Python int op Unsigned -/
theorem C02.arith_int_uns (op : AOp) (w : Nat) (x k : Int)
    (hx : InRange (.uns w) (.n x)) (hk : fits (.uns w) k = true) (hd : isDivOp op → x ≠ 0) :
    vbin (.ofA op) (inj .int (.n k)) (inj (.uns w) (.n x))
      = inj (.uns (arithVI op w)) (.n (wrapU (arithVI op w) (aop op k x))) := by
  have hk := fits_inRange (t := .uns w) rfl hx.1 hk
  simp only [inj, enc_wrapU, (vbin_ofA_vec_int op (k := .uns) nofun _ _ _).2]
  exact arithVecInt_ofA op (k := .uns) true (dec_enc (t := .uns w) rfl hx) (dec_enc (t := .uns w) rfl hk) (fun _ => hk.2.1) hd

/-- Signed op Python int -/
theorem C02.arith_sgn_int (op : AOp) (w : Nat) (x k : Int)
    (hx : InRange (.sgn w) (.n x)) (hk : fits (.sgn w) k = true) (hd : isDivOp op → k ≠ 0) :
    vbin (.ofA op) (inj (.sgn w) (.n x)) (inj .int (.n k))
      = inj (.sgn (arithVI op w)) (.n (wrapS (arithVI op w) (aop op x k))) := by
  have hk := fits_inRange (t := .sgn w) rfl hx.1 hk
  simp only [inj, enc_wrapS, (vbin_ofA_vec_int op (k := .sgn) nofun _ _ _).1]
  exact arithVecInt_ofA op (k := .sgn) false (dec_enc (t := .sgn w) rfl hx) (dec_enc (t := .sgn w) rfl hk) nofun hd

/-- Python int op Signed -/
theorem C02.arith_int_sgn (op : AOp) (w : Nat) (x k : Int)
    (hx : InRange (.sgn w) (.n x)) (hk : fits (.sgn w) k = true) (hd : isDivOp op → x ≠ 0) :
    vbin (.ofA op) (inj .int (.n k)) (inj (.sgn w) (.n x))
      = inj (.sgn (arithVI op w)) (.n (wrapS (arithVI op w) (aop op k x))) := by
  have hk := fits_inRange (t := .sgn w) rfl hx.1 hk
  simp only [inj, enc_wrapS, (vbin_ofA_vec_int op (k := .sgn) nofun _ _ _).2]
  exact arithVecInt_ofA op (k := .sgn) true (dec_enc (t := .sgn w) rfl hx) (dec_enc (t := .sgn w) rfl hk) nofun hd

example : fits (.sgn 4) (-8) = true ∧ fits (.uns 4) 15 = true := by decide
/-- `+`/`-` wrap modulo 2^max(width): documented law -/
theorem C02.add_wraps_max_width (wa wb : Nat) (x y : Int)
    (hx : InRange (.uns wa) (.n x)) (hy : InRange (.uns wb) (.n y)) :
    vbin .add (inj (.uns wa) (.n x)) (inj (.uns wb) (.n y))
      = inj (.uns (max wa wb)) (.n ((x + y) % 2 ^ (max wa wb))) ∧
    vbin .sub (inj (.uns wa) (.n x)) (inj (.uns wb) (.n y))
      = inj (.uns (max wa wb)) (.n ((x - y) % 2 ^ (max wa wb))) :=
  ⟨C02.arith_uns_uns .add wa wb x y hx hy nofun, C02.arith_uns_uns .sub wa wb x y hx hy nofun⟩

/-- `*` has the sum of the widths and never overflows it -/
theorem C02.mul_width_sum (wa wb : Nat) (x y : Int)
    (hx : InRange (.uns wa) (.n x)) (hy : InRange (.uns wb) (.n y)) :
    vbin .mul (inj (.uns wa) (.n x)) (inj (.uns wb) (.n y)) = inj (.uns (wa + wb)) (.n (x * y)) := by
  have h := C02.arith_uns_uns .mul wa wb x y hx hy nofun
  obtain ⟨_, hx0, hx1⟩ := hx
  obtain ⟨_, hy0, hy1⟩ := hy
  have : x * y < 2 ^ (wa + wb) := by
    rw [Int.pow_add]
    exact Int.mul_lt_mul' (Int.le_of_lt hx1) hy1 hy0 (Int.lt_of_le_of_lt hx0 hx1)
  simp only [VBin.ofA, arithVV, aop] at h
  rw [h, wrapU_id (Int.mul_nonneg hx0 hy0) this]

/-- truncating division has the dividend's width, Signed: rounds toward zero, wraps (only -min / -1) -/
theorem C02.truncdiv_dividend_width (wa wb : Nat) (x y : Int)
    (hx : InRange (.sgn wa) (.n x)) (hy : InRange (.sgn wb) (.n y)) (hy0 : y ≠ 0) :
    vbin .div (inj (.sgn wa) (.n x)) (inj (.sgn wb) (.n y)) = inj (.sgn wa) (.n (wrapS wa (Int.tdiv x y))) :=
  C02.arith_sgn_sgn .div wa wb x y hx hy (fun _ => hy0)

/-- `%` takes the sign of the divisor, `rem` of the dividend; both have the divisor's width -/
theorem C02.mod_rem_divisor_width (wa wb : Nat) (x y : Int)
    (hx : InRange (.sgn wa) (.n x)) (hy : InRange (.sgn wb) (.n y)) (hy0 : y ≠ 0) :
    vbin .mod (inj (.sgn wa) (.n x)) (inj (.sgn wb) (.n y)) = inj (.sgn wb) (.n (wrapS wb (Int.fmod x y))) ∧
    vbin .rem (inj (.sgn wa) (.n x)) (inj (.sgn wb) (.n y)) = inj (.sgn wb) (.n (wrapS wb (Int.tmod x y))) :=
  ⟨C02.arith_sgn_sgn .mod wa wb x y hx hy (fun _ => hy0), C02.arith_sgn_sgn .rem wa wb x y hx hy (fun _ => hy0)⟩

example : InRange (.sgn 4) (.n (-7)) ∧ InRange (.sgn 3) (.n 3) ∧ (3 : Int) ≠ 0 := by
  refine ⟨by simp [InRange], by simp [InRange], by decide⟩

/-- the left operand of `@` forms the most significant bits -/
theorem C02.concat_left_is_msb (ka kb : VK) (wa wb pa pb : Nat) (hb : pb < 2 ^ wb) :
    vbin .cat (vconv .slv (.vec ka wa pa)) (vconv .slv (.vec kb wb pb)) = .vec .slv (wa + wb) (pa * 2 ^ wb + pb) ∧
    (pa * 2 ^ wb + pb) / 2 ^ wb = pa ∧ (pa * 2 ^ wb + pb) % 2 ^ wb = pb := by
  refine ⟨by simp [vbin, vconv], ?_, ?_⟩
  · rw [Nat.add_comm, Nat.add_mul_div_right _ _ (Nat.two_pow_pos wb), Nat.div_eq_of_lt hb]; simp
  · rw [Nat.add_comm, Nat.add_mul_mod_self_right, Nat.mod_eq_of_lt hb]

/-- resize (zero extension for Unsigned, sign extension for Signed) preserves the value -/
theorem C02.resize_preserves_value (w w' : Nat) (x : Int) (hw : w ≤ w') :
    (InRange (.uns w) (.n x) → vresizeV (inj (.uns w) (.n x)) w' = inj (.uns w') (.n x)) ∧
    (InRange (.sgn w) (.n x) → vresizeV (inj (.sgn w) (.n x)) w' = inj (.sgn w') (.n x)) := by
  constructor
  · exact fun h => congrArg (VVal.vec .uns w') (vresize_enc (t := .uns w) rfl hw h)
  · exact fun h => congrArg (VVal.vec .sgn w') (vresize_enc (t := .sgn w) rfl hw h)

/-- bitwise `& | ^` on two vectors of the same kind and width (BitVector, Unsigned, Signed): bit by bit on the
    patterns, result of the same type -/
theorem C02.bitop_correct (op : LOp) (t : Ty) (va vb : Val) (hv : t.isVec = true)
    (ha : InRange t va) (hb : InRange t vb) :
    InRange t (.n (wrap t (lopN op (pat t va.num).toNat (pat t vb.num).toNat))) ∧
    vbin (.ofL op) (inj t va) (inj t vb) = inj t (.n (wrap t (lopN op (pat t va.num).toNat (pat t vb.num).toNat))) := by
  obtain ⟨p, ia, pl, pc, hw⟩ := vecView hv ha
  obtain ⟨q, ib, ql, qc, -⟩ := vecView hv hb
  have e1 : (pat t va.num).toNat = p := by rw [← pc]; rfl
  have e2 : (pat t vb.num).toNat = q := by rw [← qc]; rfl
  simp only [e1, e2]
  rw [ia, ib, vbin_ofL_vec, inj_vec hv, enc_wrap hv, enc_natCast (lopN_lt op pl ql)]
  exact ⟨inRange_wrap hv hw _, rfl⟩

/-- ... and on two Bit operands -/
theorem C02.bitop_bit_correct (op : LOp) (x y : Bool) :
    vbin (.ofL op) (inj .bit (.b x)) (inj .bit (.b y)) = inj .bit (.b (lopB op x y)) := by
  cases op <;> simp [vbin, VBin.ofL, inj, lopVB, lopB]

/-- `~` : every bit inverted (Bit, BitVector, Unsigned: 2^w-1-x; Signed: -x-1) -/
theorem C02.inv_correct :
    (∀ x : Bool, vnot (inj .bit (.b x)) = inj .bit (.b (!x))) ∧
    (∀ (w : Nat) (x : Int), InRange (.uns w) (.n x) →
        InRange (.uns w) (.n (2 ^ w - 1 - x)) ∧ vnot (inj (.uns w) (.n x)) = inj (.uns w) (.n (2 ^ w - 1 - x))) ∧
    (∀ (w : Nat) (x : Int), InRange (.bv w) (.n x) →
        InRange (.bv w) (.n (2 ^ w - 1 - x)) ∧ vnot (inj (.bv w) (.n x)) = inj (.bv w) (.n (2 ^ w - 1 - x))) ∧
    (∀ (w : Nat) (x : Int), InRange (.sgn w) (.n x) →
        InRange (.sgn w) (.n (-x - 1)) ∧ vnot (inj (.sgn w) (.n x)) = inj (.sgn w) (.n (-x - 1))) := by
  refine ⟨fun x => rfl, ?_, ?_, ?_⟩
  all_goals rintro w x ⟨hw, h0, h1⟩
  · exact ⟨⟨hw, by omega, by omega⟩, by simp only [vnot, inj, enc_not_uns]⟩
  · exact ⟨⟨hw, by omega, by omega⟩, by simp only [vnot, inj, enc_not_uns]⟩
  · exact ⟨⟨hw, by omega, by omega⟩, by simp only [vnot, inj, enc_not_sgn]⟩

theorem C02.case_bitop (env : Env) (op : LOp) (a b : Expr) (iha : Good env a) (ihb : Good env b) :
    Good env (.bitop op a b) := by
  intro t ht hd
  obtain ⟨ht, ⟨hta, ra, ea⟩, -, rb, eb⟩ := iha.sub2 ihb ht hd
  simp only [lower, evalV, ea, eb, evalSpec]
  generalize tyOr (typeOf a) = ta at *
  generalize tyOr (typeOf b) = tb at *
  unfold bitopTy at ht
  split at ht
  case h_1 =>
    cases ht
    obtain ⟨x, hx⟩ := inR_bit ra
    obtain ⟨y, hy⟩ := inR_bit rb
    rw [hx, hy]
    exact ⟨trivial, C02.bitop_bit_correct op x y⟩
  case h_5 => cases ht
  all_goals
    obtain ⟨rfl, h⟩ := ite_ok_iff.mp ht
    cases h
    exact C02.bitop_correct op _ _ _ rfl ra rb

theorem C02.case_inv (env : Env) (a : Expr) (iha : Good env a) : Good env (.inv a) := by
  intro t ht hd
  rw [typeOf_inv] at ht
  split at ht <;> cases ht
  all_goals
    rename_i hta
    obtain ⟨ra, ea⟩ := iha _ hta hd
    simp only [lower, evalV, ea, evalSpec, hta, tyOr]
  · obtain ⟨x, hx⟩ := inR_bit ra
    rw [hx]
    exact ⟨trivial, C02.inv_correct.1 x⟩
  all_goals
    have hx := (inR_vec rfl ra).1
    rw [hx] at ra ⊢
  · exact C02.inv_correct.2.2.1 _ _ ra
  · exact C02.inv_correct.2.1 _ _ ra
  · exact C02.inv_correct.2.2.2 _ _ ra

/-- comparisons of two vectors of the same numeric kind (any widths): the mathematical order of the values;
    `==`/`!=` of BitVectors of equal width, of Bits and of booleans -/
theorem C02.cmp_correct (op : COp) :
    (∀ wa wb x y, InRange (.uns wa) (.n x) → InRange (.uns wb) (.n y) →
        vrel op (inj (.uns wa) (.n x)) (inj (.uns wb) (.n y)) = .bool (copI op x y)) ∧
    (∀ wa wb x y, InRange (.sgn wa) (.n x) → InRange (.sgn wb) (.n y) →
        vrel op (inj (.sgn wa) (.n x)) (inj (.sgn wb) (.n y)) = .bool (copI op x y)) ∧
    (∀ w x y, op.isEq = true → InRange (.bv w) (.n x) → InRange (.bv w) (.n y) →
        vrel op (inj (.bv w) (.n x)) (inj (.bv w) (.n y)) = .bool (copI op x y)) ∧
    (∀ x y : Bool, op.isEq = true →
        vrel op (.sl x) (.sl y) = .bool (copI op (Val.b x).num (Val.b y).num) ∧
        vrel op (.bool x) (.bool y) = .bool (copI op (Val.b x).num (Val.b y).num)) := by
  refine ⟨?_, ?_, ?_, ?_⟩
  · rintro wa wb x y ⟨_, a0, a1⟩ ⟨_, b0, b1⟩
    simp only [inj, vrel_num op (k := .uns) nofun, dec, enc_of_range a0 a1, enc_of_range b0 b1]
  · rintro wa wb x y ⟨ha, a0, a1⟩ ⟨hb, b0, b1⟩
    simp only [inj, vrel_num op (k := .sgn) nofun, dec, sInt_enc_id ha a0 a1, sInt_enc_id hb b0 b1]
  · rintro w x y he ⟨_, a0, a1⟩ ⟨_, b0, b1⟩
    simp [vrel, inj, he, enc_of_range a0 a1, enc_of_range b0 b1]
  · intro x y he
    simp [vrel, he, Val.num]

/-- comparisons with a Python int on either side (the front end reflects `k < a` into `a > k`) -/
theorem C02.cmp_int_correct (op : COp) (k : Int) :
    (∀ w x, InRange (.uns w) (.n x) → 0 ≤ k →
        vrel op (inj (.uns w) (.n x)) (.int k) = .bool (copI op x k) ∧
        vrel op.swap (inj (.uns w) (.n x)) (.int k) = .bool (copI op k x)) ∧
    (∀ w x, InRange (.sgn w) (.n x) →
        vrel op (inj (.sgn w) (.n x)) (.int k) = .bool (copI op x k) ∧
        vrel op.swap (inj (.sgn w) (.n x)) (.int k) = .bool (copI op k x)) := by
  constructor
  · rintro w x ⟨_, a0, a1⟩ hk
    simp only [inj, (vrel_num_int _ (k := .uns) nofun (fun _ => hk) _ _).1, dec, enc_of_range a0 a1, copI_swap,
      and_self]
  · rintro w x ⟨ha, a0, a1⟩
    simp only [inj, (vrel_num_int _ (k := .sgn) nofun nofun _ _).1, dec, sInt_enc_id ha a0 a1, copI_swap, and_self]

example : InRange (.sgn 4) (.n (-3)) ∧ COp.isEq .ne = true := by simp [InRange, COp.isEq]

/-- every rule of `cmpTy`: the comparison as printed (operands exchanged and the operator reflected when the left
    one is a Python int) is the comparison of the values -/
theorem CohdlVerif.C02.cmp_rule {env : Env} {op : COp} {ta tb t : Ty} {ia ib : Option Int} {va vb : Val}
    {A B : VExpr} (ht : cmpTy op ta tb ia ib = .ok t) (ra : InRange ta va) (rb : InRange tb vb)
    (ea : evalV A env = inj ta va) (eb : evalV B env = inj tb vb)
    (hia : ∀ k, ia = some k → va = .n k) (hib : ∀ k, ib = some k → vb = .n k) :
    t = .bool ∧
    evalV (match (generalizing := false) ta, tb with
      | .int, .int => .rel op A B
      | .int, _ => .rel op.swap B A
      | _, _ => .rel op A B) env = .bool (copI op va.num vb.num) := by
  unfold cmpTy at ht
  split at ht
  · cases ht
    obtain ⟨x, rfl, _⟩ := inR_uns ra
    obtain ⟨y, rfl, _⟩ := inR_uns rb
    simp only [evalV, ea, eb]
    exact ⟨trivial, (C02.cmp_correct op).1 _ _ x y ra rb⟩
  · cases ht
    obtain ⟨x, rfl, _⟩ := inR_sgn ra
    obtain ⟨y, rfl, _⟩ := inR_sgn rb
    simp only [evalV, ea, eb]
    exact ⟨trivial, (C02.cmp_correct op).2.1 _ _ x y ra rb⟩
  · obtain ⟨k, rfl, ht⟩ := int_ok ht
    obtain ⟨hk, ht⟩ := ite_ok_iff.mp ht
    cases ht
    cases hib k rfl
    obtain ⟨x, rfl, _⟩ := inR_uns ra
    simp only [evalV, ea, eb]
    exact ⟨trivial, ((C02.cmp_int_correct op k).1 _ x ra hk).1⟩
  · obtain ⟨k, rfl, ht⟩ := int_ok ht
    obtain ⟨hk, ht⟩ := ite_ok_iff.mp ht
    cases ht
    cases hia k rfl
    obtain ⟨y, rfl, _⟩ := inR_uns rb
    simp only [evalV, ea, eb]
    exact ⟨trivial, ((C02.cmp_int_correct op k).1 _ y rb hk).2⟩
  · obtain ⟨k, rfl, ht⟩ := int_ok ht
    cases ht
    cases hib k rfl
    obtain ⟨x, rfl, _⟩ := inR_sgn ra
    simp only [evalV, ea, eb]
    exact ⟨trivial, ((C02.cmp_int_correct op k).2 _ x ra).1⟩
  · obtain ⟨k, rfl, ht⟩ := int_ok ht
    cases ht
    cases hia k rfl
    obtain ⟨y, rfl, _⟩ := inR_sgn rb
    simp only [evalV, ea, eb]
    exact ⟨trivial, ((C02.cmp_int_correct op k).2 _ y rb).2⟩
  · obtain ⟨he, h1⟩ := ite_ok_iff.mp ht
    obtain ⟨rfl, h2⟩ := ite_ok_iff.mp h1
    cases h2
    obtain ⟨x, rfl, _⟩ := inR_bv ra
    obtain ⟨y, rfl, _⟩ := inR_bv rb
    simp only [evalV, ea, eb]
    exact ⟨trivial, (C02.cmp_correct op).2.2.1 _ x y he ra rb⟩
  · obtain ⟨he, ht⟩ := ite_ok_iff.mp ht
    cases ht
    obtain ⟨x, rfl⟩ := inR_bit ra
    obtain ⟨y, rfl⟩ := inR_bit rb
    simp only [evalV, ea, eb]
    exact ⟨trivial, ((C02.cmp_correct op).2.2.2 x y he).1⟩
  · obtain ⟨he, ht⟩ := ite_ok_iff.mp ht
    cases ht
    obtain ⟨x, rfl⟩ := inR_bool ra
    obtain ⟨y, rfl⟩ := inR_bool rb
    simp only [evalV, ea, eb]
    exact ⟨trivial, ((C02.cmp_correct op).2.2.2 x y he).2⟩
  · cases ht

theorem C02.case_cmp (env : Env) (op : COp) (a b : Expr) (iha : Good env a) (ihb : Good env b) :
    Good env (.cmp op a b) := by
  intro t ht hd
  obtain ⟨ht, ⟨-, ra, ea⟩, -, rb, eb⟩ := iha.sub2 ihb ht hd
  obtain ⟨rfl, h⟩ := cmp_rule ht ra rb ea eb (fun _ => intVal_eval env) (fun _ => intVal_eval env)
  exact ⟨trivial, h⟩

/-- `>>` is a logical shift for Unsigned and an arithmetic shift for Signed - for ALL values, negative ones
    included: in both cases the floor division of the value by 2^n (`/` on `Int` is floor division for a positive
    divisor), with the operand's type and width -/
theorem C02.shr_logical_unsigned_arith_signed (w n : Nat) (x : Int) :
    (InRange (.uns w) (.n x) → InRange (.uns w) (.n (x / 2 ^ n)) ∧
        vshiftR (inj (.uns w) (.n x)) (.int n) = inj (.uns w) (.n (x / 2 ^ n))) ∧
    (InRange (.sgn w) (.n x) → InRange (.sgn w) (.n (x / 2 ^ n)) ∧
        vshiftR (inj (.sgn w) (.n x)) (.int n) = inj (.sgn w) (.n (x / 2 ^ n))) := by
  have hS := p2pos n
  constructor
  · rintro ⟨hw, h0, h1⟩
    refine ⟨⟨hw, Int.ediv_nonneg h0 (Int.le_of_lt hS), Int.lt_of_le_of_lt (Int.ediv_le_self _ h0) h1⟩, ?_⟩
    simp [inj, vshiftR, enc_shr_nonneg h0 h1]
  · rintro ⟨hw, hlo, hhi⟩
    have hh := p2half hw
    -- `2 ^ (w - 1) ≤ 2 ^ (w - 1) * 2 ^ n` keeps the quotient in the range
    have hm := Int.mul_le_mul_of_nonneg_left (Int.add_one_le_iff.mpr hS) (Int.le_of_lt (p2pos (w - 1)))
    refine ⟨⟨hw, (Int.le_ediv_iff_mul_le hS).2 (by rw [Int.neg_mul]; omega), Int.ediv_lt_of_lt_mul hS (by omega)⟩, ?_⟩
    simp only [inj, vshiftR_sgn n hw (enc_lt w x), sInt_enc_id hw hlo hhi]

example : InRange (.sgn 4) (.n (-7)) := by simp [InRange]

/-- `<<` drops the bits shifted out: multiplication by 2^n wrapped into the operand's type (Unsigned and Signed) -/
theorem C02.shl_correct (w n : Nat) (x : Int) :
    (InRange (.uns w) (.n x) → vshiftL (inj (.uns w) (.n x)) (.int n) = inj (.uns w) (.n (wrapU w (x * 2 ^ n)))) ∧
    (InRange (.sgn w) (.n x) → vshiftL (inj (.sgn w) (.n x)) (.int n) = inj (.sgn w) (.n (wrapS w (x * 2 ^ n)))) := by
  have key : (enc w x * 2 ^ n) % 2 ^ w = enc w (x * 2 ^ n) := by
    have : (((enc w x * 2 ^ n) % 2 ^ w : Nat) : Int) = ((enc w (x * 2 ^ n) : Nat) : Int) := by
      rw [enc_cast]; push_cast; rw [enc_cast]
      rw [Int.mul_emod (x % 2 ^ w), Int.emod_emod_of_dvd _ (Int.dvd_refl _), ← Int.mul_emod]
    exact_mod_cast this
  constructor
  · intro _; simp [inj, vshiftL, key, enc_wrapU]
  · intro _; simp [inj, vshiftL, key, enc_wrapS]

theorem C02.case_shl (env : Env) (a n : Expr) (iha : Good env a) (ihn : Good env n) : Good env (.shl a n) := by
  intro t ht hd
  obtain ⟨ht, ⟨hta, ra, ea⟩, on⟩ := iha.sub2 ihn ht hd
  obtain ⟨rfl, hn, hamt⟩ := shiftTy_ok ht
  rw [(shift_amt env a on hamt).1, ea]
  simp only [evalSpec]
  generalize tyOr (typeOf a) = ta at hn ra ⊢
  cases ta <;> cases hn
  all_goals
    obtain ⟨hx, hw1⟩ := inR_vec rfl ra
    rw [hx] at ra ⊢
  · exact ⟨inRange_wrapU hw1 _, (C02.shl_correct _ _ _).1 ra⟩
  · exact ⟨inRange_wrapS hw1 _, (C02.shl_correct _ _ _).2 ra⟩

theorem C02.case_shr (env : Env) (a n : Expr) (iha : Good env a) (ihn : Good env n) : Good env (.shr a n) := by
  intro t ht hd
  obtain ⟨ht, ⟨hta, ra, ea⟩, on⟩ := iha.sub2 ihn ht hd
  obtain ⟨rfl, hn, hamt⟩ := shiftTy_ok ht
  rw [(shift_amt env a on hamt).2, ea]
  simp only [evalSpec]
  generalize tyOr (typeOf a) = ta at hn ra ⊢
  cases ta <;> cases hn
  all_goals
    have hx := (inR_vec rfl ra).1
    rw [hx] at ra ⊢
  · exact (C02.shr_logical_unsigned_arith_signed _ _ _).1 ra
  · exact (C02.shr_logical_unsigned_arith_signed _ _ _).2 ra

/-- `a @ b` (operands Bit / BitVector / Unsigned / Signed, numeric operands coerced with `.bitvector` =
    `std_logic_vector(.)`): a BitVector of the summed width whose most significant bits are the pattern of `a` -/
theorem C02.concat_correct (va vb : VVal) (wa pa wb pb : Nat) (ha : IsCat va wa pa) (hb : IsCat vb wb pb)
    (la : pa < 2 ^ wa) (lb : pb < 2 ^ wb) :
    vbin .cat va vb = inj (.bv (wa + wb)) (.n ((pa : Int) * 2 ^ wb + pb)) ∧
    InRange (.bv (wa + wb)) (.n ((pa : Int) * 2 ^ wb + pb)) ∨ wa + wb = 0 := by
  by_cases h0 : wa + wb = 0
  · exact Or.inr h0
  left
  have hlt : pa * 2 ^ wb + pb < 2 ^ (wa + wb) := by
    rw [Nat.pow_add]
    calc pa * 2 ^ wb + pb < (pa + 1) * 2 ^ wb := by rw [Nat.add_mul, Nat.one_mul]; omega
      _ ≤ 2 ^ wa * 2 ^ wb := Nat.mul_le_mul_right _ la
  have hc : ((pa : Int) * 2 ^ wb + pb) = ((pa * 2 ^ wb + pb : Nat) : Int) := by push_cast; rfl
  rw [hc, vbin_cat ha hb]
  exact ⟨congrArg (VVal.vec .slv _) (enc_natCast hlt).symm, inRange_natCast (by omega) hlt⟩

theorem C02.case_concat (env : Env) (a b : Expr) (iha : Good env a) (ihb : Good env b) : Good env (.concat a b) := by
  intro t ht hd
  obtain ⟨ht, ⟨-, ra, ea⟩, -, rb, eb⟩ := iha.sub2 ihb ht hd
  split at ht
  case h_2 => cases ht
  rename_i wa wb hwa hwb
  cases ht
  obtain ⟨pa, ca, la, pca, ewa, h1a⟩ := cat_operand env ra ea hwa
  obtain ⟨pb, cb, lb, pcb, ewb, h1b⟩ := cat_operand env rb eb hwb
  rw [lower_concat_eq]
  rcases C02.concat_correct _ _ wa pa wb pb ca cb la lb with ⟨hv, hr⟩ | h0
  · simp only [evalV, evalSpec] at hv ⊢
    rw [← pca, ← pcb, ← ewb]
    exact ⟨hr, hv⟩
  · omega

/-- constant index, constant slice and run-time index of a vector of any kind: bit `i` of the pattern /
    bits `hi..lo` of the pattern as a BitVector -/
theorem C02.index_slice_correct (k : VK) (w p : Nat) (hp : p < 2 ^ w) :
    (∀ i : Nat, i < w → vindex (.vec k w p) (.int i) = inj .bit (.b (((p : Int) / 2 ^ i) % 2 == 1))) ∧
    (∀ hi lo : Nat, lo ≤ hi → hi < w →
        vconv .slv (vslice (.vec k w p) hi lo) = inj (.bv (hi - lo + 1)) (.n (((p : Int) / 2 ^ lo) % 2 ^ (hi - lo + 1))) ∧
        InRange (.bv (hi - lo + 1)) (.n (((p : Int) / 2 ^ lo) % 2 ^ (hi - lo + 1)))) := by
  constructor
  · intro i hi
    have : (i : Int) < w := by exact_mod_cast hi
    simp [vindex, inj, this, bit_test_cast]
  · intro hi lo h1 h2
    have hm : (p / 2 ^ lo) % 2 ^ (hi - lo + 1) < 2 ^ (hi - lo + 1) := Nat.mod_lt _ (Nat.two_pow_pos _)
    have hc : ((p : Int) / 2 ^ lo) % 2 ^ (hi - lo + 1) = (((p / 2 ^ lo) % 2 ^ (hi - lo + 1) : Nat) : Int) := by
      push_cast; rfl
    simp only [vslice, h1, h2, and_self, if_true, vconv, hc]
    exact ⟨congrArg (VVal.vec .slv _) (enc_natCast hm).symm, inRange_natCast (by omega) hm⟩

example : (5 : Nat) < 2 ^ 3 := by decide

/-- the views `.signed` `.unsigned` `.bitvector` keep the pattern and reinterpret it -/
theorem C02.view_correct (k : VK) (w p : Nat) (hw : 1 ≤ w) (hp : p < 2 ^ w) :
    (vconv .sgn (.vec k w p) = inj (.sgn w) (.n (wrapS w p)) ∧ InRange (.sgn w) (.n (wrapS w p))) ∧
    (vconv .uns (.vec k w p) = inj (.uns w) (.n p) ∧ InRange (.uns w) (.n (p : Int))) ∧
    (vconv .slv (.vec k w p) = inj (.bv w) (.n p) ∧ InRange (.bv w) (.n (p : Int))) := by
  refine ⟨⟨?_, inRange_wrapS hw _⟩, ⟨?_, inRange_natCast hw hp⟩, ⟨?_, inRange_natCast hw hp⟩⟩
  · simp [vconv, inj, enc_wrapS, enc_natCast hp]
  · simp [vconv, inj, enc_natCast hp]
  · simp [vconv, inj, enc_natCast hp]

/-- `abs` / unary minus on Signed (wrap: only the minimum value), unary minus on Unsigned in the printed form
    `(0) - (x)` (two's complement negation modulo 2^w) -/
theorem C02.abs_neg_correct (w : Nat) (x : Int) :
    (InRange (.sgn w) (.n x) → vabs (inj (.sgn w) (.n x)) = inj (.sgn w) (.n (wrapS w (Int.natAbs x)))) ∧
    (InRange (.sgn w) (.n x) → vneg (inj (.sgn w) (.n x)) = inj (.sgn w) (.n (wrapS w (-x)))) ∧
    (InRange (.uns w) (.n x) → vbin .sub (.int 0) (inj (.uns w) (.n x)) = inj (.uns w) (.n (wrapU w (-x)))) := by
  refine ⟨?_, ?_, ?_⟩
  · rintro ⟨hw, h0, h1⟩
    simp [vabs, inj, sInt_enc_id hw h0 h1, enc_wrapS]
  · rintro ⟨hw, h0, h1⟩
    simp [vneg, inj, sInt_enc_id hw h0 h1, enc_wrapS]
  · rintro ⟨hw, h0, h1⟩
    have e0 : enc w 0 = 0 := by simp [enc]
    simp [vbin, inj, arithVecInt, VBin.isDiv, dec, nsOp, enc_of_range h0 h1, enc_wrapU, e0]

theorem C02.case_index (env : Env) (a : Expr) (i : Nat) (iha : Good env a) : Good env (.index a i) := by
  intro t ht hd
  obtain ⟨ht, o⟩ := iha.sub1 ht hd
  simp only [ite_ok_iff, Except.ok.injEq] at ht
  obtain ⟨hv, hi, rfl⟩ := ht
  obtain ⟨p, ea, pl, pc, -⟩ := o.vec hv
  simp only [lower, evalV, ea, evalSpec, ← pc]
  exact ⟨trivial, (C02.index_slice_correct _ _ p pl).1 i hi⟩

theorem C02.case_slice (env : Env) (a : Expr) (hi lo : Nat) (iha : Good env a) : Good env (.slice a hi lo) := by
  intro t ht hd
  obtain ⟨ht, o⟩ := iha.sub1 ht hd
  simp only [ite_ok_iff, Except.ok.injEq] at ht
  obtain ⟨hv, ⟨h1, h2⟩, rfl⟩ := ht
  obtain ⟨p, ea, pl, pc, -⟩ := o.vec hv
  have key := (C02.index_slice_correct (vkOf (tyOr (typeOf a))) _ p pl).2 hi lo h1 h2
  simp only [lower, evalSpec, ← pc]
  refine ⟨key.2, Eq.trans ?_ key.1⟩
  generalize tyOr (typeOf a) = ta at ea ⊢
  cases ta <;> simp only [evalV, ea, vconv_vconv]

theorem C02.case_indexRt (env : Env) (a n : Expr) (iha : Good env a) (ihn : Good env n) : Good env (.indexRt a n) := by
  intro t ht hd
  rw [typeOf_indexRt] at ht
  split at ht
  case h_2 | h_3 => cases ht
  rename_i ta k hta htn
  obtain ⟨hda, hdn⟩ := Bool.and_eq_true_iff.mp hd
  simp only [ite_ok_iff, Except.ok.injEq] at ht
  obtain ⟨hv, hk, rfl⟩ := ht
  obtain ⟨p, ea, pl, pc, -⟩ := Opd.vec ⟨hta, iha _ hta hda⟩ hv
  obtain ⟨rn, en⟩ := ihn _ htn hdn
  obtain ⟨y, hy, _, y0, y1⟩ := inR_uns rn
  obtain ⟨i, rfl⟩ := Int.eq_ofNat_of_zero_le y0
  have hlt : i < ta.width := Nat.lt_of_lt_of_le (by exact_mod_cast y1) hk
  simp only [lower, evalV, ea, en, evalSpec, hta, tyOr, ← pc]
  simp only [hy, inj, vtoInteger, Val.num, enc_of_range y0 y1, Int.toNat_natCast]
  exact ⟨trivial, (C02.index_slice_correct _ _ p pl).1 _ hlt⟩

theorem C02.case_asSgn (env : Env) (a : Expr) (iha : Good env a) : Good env (.asSgn a) := by
  intro t ht hd
  obtain ⟨ht, o⟩ := iha.sub1 ht hd
  obtain ⟨hv, h⟩ := ite_ok_iff.mp ht
  cases h
  obtain ⟨p, ea, pl, pc, hw⟩ := o.vec hv
  have key := (C02.view_correct (vkOf (tyOr (typeOf a))) _ p hw pl).1
  simp only [lower, evalSpec, ← pc]
  refine ⟨key.2, Eq.trans ?_ key.1⟩
  generalize tyOr (typeOf a) = ta at ea ⊢
  cases ta <;> simp only [evalV, ea, vconv, vkOf]

theorem C02.case_asUns (env : Env) (a : Expr) (iha : Good env a) : Good env (.asUns a) := by
  intro t ht hd
  obtain ⟨ht, o⟩ := iha.sub1 ht hd
  obtain ⟨hv, h⟩ := ite_ok_iff.mp ht
  cases h
  obtain ⟨p, ea, pl, pc, hw⟩ := o.vec hv
  have key := (C02.view_correct (vkOf (tyOr (typeOf a))) _ p hw pl).2.1
  simp only [lower, evalSpec, ← pc]
  refine ⟨key.2, Eq.trans ?_ key.1⟩
  generalize tyOr (typeOf a) = ta at ea ⊢
  cases ta <;> simp only [evalV, ea, vconv, vkOf]

theorem C02.case_asBv (env : Env) (a : Expr) (iha : Good env a) : Good env (.asBv a) := by
  intro t ht hd
  obtain ⟨ht, o⟩ := iha.sub1 ht hd
  obtain ⟨hv, h⟩ := ite_ok_iff.mp ht
  cases h
  obtain ⟨p, ea, pl, pc, hw⟩ := o.vec hv
  have key := (C02.view_correct (vkOf (tyOr (typeOf a))) _ p hw pl).2.2
  simp only [lower, evalSpec, ← pc]
  refine ⟨key.2, Eq.trans ?_ key.1⟩
  generalize tyOr (typeOf a) = ta at ea ⊢
  cases ta <;> simp only [evalV, ea, vconv, vkOf]

theorem C02.case_abs (env : Env) (a : Expr) (iha : Good env a) : Good env (.abs a) := by
  intro t ht hd
  rw [typeOf_abs] at ht
  split at ht <;> cases ht
  rename_i hta
  obtain ⟨ra, ea⟩ := iha _ hta hd
  obtain ⟨hx, hw⟩ := inR_vec rfl ra
  rw [hx] at ra ea
  simp only [lower, evalV, ea, evalSpec, hta, tyOr, wrap]
  exact ⟨inRange_wrapS hw _, (C02.abs_neg_correct _ _).1 ra⟩

theorem C02.case_neg (env : Env) (a : Expr) (iha : Good env a) : Good env (.neg a) := by
  intro t ht hd
  rw [typeOf_neg] at ht
  split at ht <;> cases ht
  all_goals
    rename_i hta
    obtain ⟨ra, ea⟩ := iha _ hta hd
    obtain ⟨hx, hw⟩ := inR_vec rfl ra
    rw [hx] at ra ea
    simp only [lower, hta, tyOr, evalV, ea, evalSpec, wrap]
  · exact ⟨inRange_wrapS hw _, (C02.abs_neg_correct _ _).2.1 ra⟩
  · exact ⟨inRange_wrapU hw _, (C02.abs_neg_correct _ _).2.2 ra⟩

/-- the cast of an operand to `boolean` that the back end prints (`x = '1'`, `(x /= 0)`, `(x /= "00..0")`, nothing
    for a boolean) yields the truth value of the operand -/
theorem C02.truth_correct (env : Env) (A : VExpr) (t : Ty) (v : Val) (ht : truthy t = true)
    (hr : InRange t v) (he : evalV A env = inj t v) :
    evalV (toBool t A) env = .bool v.tru := by
  cases t <;> simp [truthy] at ht
  · obtain ⟨b, rfl⟩ := inR_bit hr
    simp [CohdlVerif.C02.toBool, evalV, he, inj, vrel, COp.isEq, copI, Val.tru]
    cases b <;> simp
  · obtain ⟨b, rfl⟩ := inR_bool hr
    simp [CohdlVerif.C02.toBool, he, inj, Val.tru]
  · obtain ⟨x, rfl, _, h0, h1⟩ := inR_bv hr
    have e := enc_of_range h0 h1
    simp [CohdlVerif.C02.toBool, evalV, he, inj, vrel, COp.isEq, copI, Val.tru, e]
  · obtain ⟨x, rfl, _, h0, h1⟩ := inR_uns hr
    have e := enc_of_range h0 h1
    simp [CohdlVerif.C02.toBool, evalV, he, inj, vrel, copI, Val.tru, e]
  · obtain ⟨x, rfl, hw, h0, h1⟩ := inR_sgn hr
    simp [CohdlVerif.C02.toBool, evalV, he, inj, vrel, copI, Val.tru, sInt_enc_id hw h0 h1]

/-- `not` / `and` / `or` on booleans (operands after the cast of `C02.truth_correct`; `any([..])` / `all([..])` and
    chained comparisons are folds of these) -/
theorem C02.boolop_correct (x y : Bool) :
    vnot (.bool x) = .bool (!x) ∧ vbin .and (.bool x) (.bool y) = .bool (x && y) ∧
    vbin .or (.bool x) (.bool y) = .bool (x || y) := by
  simp [vnot, vbin, lopVB]

theorem C02.case_truth (env : Env) (a : Expr) (iha : Good env a) : Good env (.truth a) := by
  intro t ht hd
  obtain ⟨ht, -, ra, ea⟩ := iha.sub1 ht hd
  obtain ⟨hv, h⟩ := ite_ok_iff.mp ht
  cases h
  exact ⟨trivial, C02.truth_correct env _ _ _ hv ra ea⟩

theorem C02.case_lnot (env : Env) (a : Expr) (iha : Good env a) : Good env (.lnot a) := by
  intro t ht hd
  obtain ⟨ht, -, ra, ea⟩ := iha.sub1 ht hd
  obtain ⟨hv, h⟩ := ite_ok_iff.mp ht
  cases h
  exact ⟨trivial, (congrArg vnot (C02.truth_correct env _ _ _ hv ra ea)).trans (C02.boolop_correct _ true).1⟩

theorem C02.case_land (env : Env) (a b : Expr) (iha : Good env a) (ihb : Good env b) : Good env (.land a b) := by
  intro t ht hd
  obtain ⟨ht, ⟨-, ra, ea⟩, -, rb, eb⟩ := iha.sub2 ihb ht hd
  obtain ⟨hv, h⟩ := ite_ok_iff.mp ht
  cases h
  obtain ⟨hva, hvb⟩ := Bool.and_eq_true_iff.mp hv
  exact ⟨trivial, (congr (congrArg (vbin .and) (C02.truth_correct env _ _ _ hva ra ea))
    (C02.truth_correct env _ _ _ hvb rb eb)).trans (C02.boolop_correct _ _).2.1⟩

theorem C02.case_lor (env : Env) (a b : Expr) (iha : Good env a) (ihb : Good env b) : Good env (.lor a b) := by
  intro t ht hd
  obtain ⟨ht, ⟨-, ra, ea⟩, -, rb, eb⟩ := iha.sub2 ihb ht hd
  obtain ⟨hv, h⟩ := ite_ok_iff.mp ht
  cases h
  obtain ⟨hva, hvb⟩ := Bool.and_eq_true_iff.mp hv
  exact ⟨trivial, (congr (congrArg (vbin .or) (C02.truth_correct env _ _ _ hva ra ea))
    (C02.truth_correct env _ _ _ hvb rb eb)).trans (C02.boolop_correct _ _).2.2⟩

/-- if-expression (`with c select .. when true, .. when others`) and one `select_with` entry
    (`with arg select e when key, rest when others`): the selected branch, both branches of the same type -/
theorem C02.select_correct (env : Env) (t : Ty) (ve vr : Val) (he : InRange t ve) (hr : InRange t vr) :
    (∀ (C A B : VExpr) (c : Bool), evalV C env = .bool c → evalV A env = inj t ve → evalV B env = inj t vr →
        evalV (.ite C A B) env = inj t (if c then ve else vr)) ∧
    (∀ (targ : Ty) (va : Val) (key : Int) (ARG E R : VExpr), (targ.isVec || targ == .bit) = true →
        InRange targ va → fits targ key = true → evalV ARG env = inj targ va →
        evalV E env = inj t ve → evalV R env = inj t vr →
        evalV (.sel ARG (litV targ key) E R) env = inj t (if va.num == key then ve else vr)) := by
  constructor
  · intro C A B c hc ha hb
    simp only [evalV, hc, ha, hb, inj_sameType he hr, if_true]
    cases c <;> rfl
  · intro targ va key ARG E R hk hra hf harg hE hR
    obtain ⟨s1, s2⟩ := sel_key env targ va key hk hra hf
    simp only [evalV, harg, hE, hR, s1, s2, inj_sameType he hr, inj_ne_err hra, inj_ne_err he, Bool.true_and]
    cases va.num == key <;> rfl

theorem C02.case_ite (env : Env) (c a b : Expr) (ihc : Good env c) (iha : Good env a) (ihb : Good env b) :
    Good env (.ite c a b) := by
  intro t ht hd
  obtain ⟨ht, ⟨-, rc, ec⟩, ⟨-, ra, ea⟩, -, rb, eb⟩ := ihc.sub3 iha ihb ht hd
  simp only [ite_ok_iff, Except.ok.injEq] at ht
  obtain ⟨hvc, ⟨hab, _⟩, rfl⟩ := ht
  rw [← hab] at rb eb
  exact ⟨inRange_ite _ ra rb,
    (C02.select_correct env _ _ _ ra rb).1 _ _ _ _ (C02.truth_correct env _ _ _ hvc rc ec) ea eb⟩

theorem C02.case_sel (env : Env) (arg : Expr) (key : Int) (e rest : Expr) (iharg : Good env arg) (ihe : Good env e)
    (ihr : Good env rest) : Good env (.sel arg key e rest) := by
  intro t ht hd
  obtain ⟨ht, ⟨-, rg, eg⟩, ⟨-, re, ee⟩, -, rr, er⟩ := iharg.sub3 ihe ihr ht hd
  simp only [ite_ok_iff, Except.ok.injEq] at ht
  obtain ⟨hk, hf, ⟨her, _⟩, rfl⟩ := ht
  rw [← her] at rr er
  exact ⟨inRange_ite _ re rr, (C02.select_correct env _ _ _ re rr).2 _ _ key _ _ _ hk rg hf eg ee er⟩

theorem C02.case_port (env : Env) (i : Nat) (t : Ty) : Good env (.port i t) := by
  intro t' ht _
  cases t
  case bit =>
    cases ht
    exact ⟨trivial, rfl⟩
  case bool | int => cases ht
  all_goals
    obtain ⟨hw, h⟩ := ite_ok_iff.mp ht
    cases h
    exact ⟨inRange_wrap rfl (by exact hw) _, rfl⟩

theorem C02.case_lit (env : Env) (t : Ty) (v : Int) : Good env (.lit t v) := by
  intro t' ht _
  cases t
  case bit =>
    obtain ⟨_, h⟩ := ite_ok_iff.mp ht
    cases h
    exact ⟨trivial, rfl⟩
  case bool | int => cases ht
  all_goals
    obtain ⟨hw, h1⟩ := ite_ok_iff.mp ht
    obtain ⟨hf, h2⟩ := ite_ok_iff.mp h1
    cases h2
    exact ⟨fits_inRange rfl hw hf, rfl⟩

theorem C02.case_intc (env : Env) (k : Int) : Good env (.intc k) := by
  intro t' ht _
  cases Except.ok.inj ht
  exact ⟨trivial, rfl⟩

theorem CohdlVerif.C02.arith_rule {op : AOp} {ta tb t : Ty} {ia ib : Option Int} {va vb : Val}
    (ht : arithTy op ta tb ia ib = .ok t) (ra : InRange ta va) (rb : InRange tb vb)
    (hia : ∀ k, ia = some k → va = .n k) (hib : ∀ k, ib = some k → vb = .n k)
    (hd : isDivOp op → vb.num ≠ 0) :
    InRange t (.n (wrap t (aop op va.num vb.num))) ∧
      vbin (.ofA op) (inj ta va) (inj tb vb) = inj t (.n (wrap t (aop op va.num vb.num))) := by
  unfold arithTy at ht
  split at ht
  case h_1 =>
    cases ht
    obtain ⟨x, rfl, hwa, _⟩ := inR_uns ra
    obtain ⟨y, rfl, hwb, _⟩ := inR_uns rb
    exact ⟨inRange_wrapU (arithVV_pos op hwa hwb) _, C02.arith_uns_uns op _ _ x y ra rb hd⟩
  case h_2 =>
    cases ht
    obtain ⟨x, rfl, hwa, _⟩ := inR_sgn ra
    obtain ⟨y, rfl, hwb, _⟩ := inR_sgn rb
    exact ⟨inRange_wrapS (arithVV_pos op hwa hwb) _, C02.arith_sgn_sgn op _ _ x y ra rb hd⟩
  case h_7 => cases ht
  -- one operand a Python int `k` that fits the other operand's type
  all_goals
    obtain ⟨k, rfl, h1⟩ := int_ok ht
    obtain ⟨hf, h2⟩ := ite_ok_iff.mp h1
    cases h2
  · cases hib k rfl
    obtain ⟨x, rfl, hw, _⟩ := inR_uns ra
    exact ⟨inRange_wrapU (arithVI_pos op hw) _, C02.arith_uns_int op _ x k ra hf hd⟩
  · cases hib k rfl
    obtain ⟨x, rfl, hw, _⟩ := inR_sgn ra
    exact ⟨inRange_wrapS (arithVI_pos op hw) _, C02.arith_sgn_int op _ x k ra hf hd⟩
  · cases hia k rfl
    obtain ⟨y, rfl, hw, _⟩ := inR_uns rb
    exact ⟨inRange_wrapU (arithVI_pos op hw) _, C02.arith_int_uns op _ y k rb hf hd⟩
  · cases hia k rfl
    obtain ⟨y, rfl, hw, _⟩ := inR_sgn rb
    exact ⟨inRange_wrapS (arithVI_pos op hw) _, C02.arith_int_sgn op _ y k rb hf hd⟩

theorem C02.case_arith (env : Env) (op : AOp) (a b : Expr) (iha : Good env a) (ihb : Good env b) :
    Good env (.arith op a b) := by
  intro t ht hd
  obtain ⟨hdab, hdz⟩ := Bool.and_eq_true_iff.mp hd
  obtain ⟨ht', ⟨-, ra, ea⟩, -, rb, eb⟩ := iha.sub2 ihb ht hdab
  have hdiv : isDivOp op → (evalSpec b env).num ≠ 0 := by
    intro h
    rcases h with rfl | rfl | rfl <;> simpa using hdz
  simp only [lower, evalV, ea, eb, evalSpec, ht, tyOr]
  exact arith_rule ht' ra rb (fun _ => intVal_eval env) (fun _ => intVal_eval env) hdiv

/-- `target <<= x` (also: the arms of an if-expression / select_with typed by their target): Unsigned into a wider
    Unsigned or a STRICTLY wider Signed is zero-extended (`resize` acts on the unsigned value, the reinterpretation
    as signed comes afterwards), Signed into a wider Signed is sign-extended - the numeric value is preserved,
    also when the most significant bit of the Unsigned operand is set -/
theorem C02.conv_correct (wa w : Nat) (x : Int) :
    (InRange (.uns wa) (.n x) → wa ≤ w →
        vresizeV (inj (.uns wa) (.n x)) w = inj (.uns w) (.n x) ∧ InRange (.uns w) (.n x)) ∧
    (InRange (.sgn wa) (.n x) → wa ≤ w →
        vresizeV (inj (.sgn wa) (.n x)) w = inj (.sgn w) (.n x) ∧ InRange (.sgn w) (.n x)) ∧
    (InRange (.uns wa) (.n x) → wa < w →
        vconv .sgn (vconv .slv (vresizeV (inj (.uns wa) (.n x)) w)) = inj (.sgn w) (.n x) ∧ InRange (.sgn w) (.n x)) := by
  refine ⟨?_, ?_, ?_⟩
  all_goals
    intro hr hw
    obtain ⟨h1, h0, hlt⟩ := hr
  · exact ⟨(C02.resize_preserves_value wa w x hw).1 ⟨h1, h0, hlt⟩, Nat.le_trans h1 hw, h0, Int.lt_of_lt_of_le hlt (p2mono hw)⟩
  · have hm : (2 : Int) ^ (wa - 1) ≤ 2 ^ (w - 1) := p2mono (by omega)
    exact ⟨(C02.resize_preserves_value wa w x hw).2 ⟨h1, h0, hlt⟩, Nat.le_trans h1 hw, by omega, Int.lt_of_lt_of_le hlt hm⟩
  · have hm : (2 : Int) ^ wa ≤ 2 ^ (w - 1) := p2mono (by omega)
    refine ⟨?_, by omega, by have := p2pos (w - 1); omega, Int.lt_of_lt_of_le hlt hm⟩
    exact congrArg (VVal.vec .sgn w) (vresize_enc (t := .uns wa) rfl (Nat.le_of_lt hw) ⟨h1, h0, hlt⟩)

example : InRange (.uns 3) (.n 5) ∧ 3 < 5 := by simp [InRange]

theorem CohdlVerif.C02.eval_resize (env : Env) (A : VExpr) {wa w : Nat} {x : Int} (hle : wa ≤ w) :
    (InRange (.uns wa) (.n x) → evalV A env = inj (.uns wa) (.n x) →
      InRange (.uns w) (.n x) ∧ evalV (if wa = w then A else .resize A w) env = inj (.uns w) (.n x)) ∧
    (InRange (.sgn wa) (.n x) → evalV A env = inj (.sgn wa) (.n x) →
      InRange (.sgn w) (.n x) ∧ evalV (if wa = w then A else .resize A w) env = inj (.sgn w) (.n x)) := by
  constructor
  all_goals
    intro ra ea
    split
    case isTrue heq =>
      subst heq
      exact ⟨ra, ea⟩
    simp only [evalV, ea]
  · exact ((C02.conv_correct wa w x).1 ra hle).symm
  · exact ((C02.conv_correct wa w x).2.1 ra hle).symm

theorem C02.case_resize (env : Env) (a : Expr) (w : Nat) (iha : Good env a) : Good env (.resize a w) := by
  intro t ht hd
  rw [typeOf_resize] at ht
  split at ht
  case h_3 | h_4 => cases ht
  all_goals
    rename_i wa hta
    obtain ⟨hle, h⟩ := ite_ok_iff.mp ht
    cases h
    obtain ⟨ra, ea⟩ := iha _ hta hd
    have hx := (inR_vec rfl ra).1
    rw [hx] at ra ea
    simp only [lower, hta, tyOr, Ty.width, evalSpec]
  · exact (eval_resize env _ hle).1 ra ea
  · exact (eval_resize env _ hle).2 ra ea

theorem C02.case_conv (env : Env) (a : Expr) (tt : Ty) (iha : Good env a) : Good env (.conv a tt) := by
  intro t ht hd
  obtain ⟨ht, o⟩ := iha.sub1 ht hd
  generalize tyOr (typeOf a) = ta at ht o
  obtain ⟨hta, ra, ea⟩ := o
  unfold convTy at ht
  split at ht
  case h_10 => cases ht
  case h_9 =>
    cases ht
    simp only [lower, hta, tyOr, evalSpec]
    exact ⟨ra, ea⟩
  all_goals
    obtain ⟨hw, h⟩ := ite_ok_iff.mp ht
    cases h
    obtain ⟨hx, hw1⟩ := inR_vec rfl ra
    rw [hx] at ra ea
    simp only [lower, hta, tyOr, evalSpec, evalV, ea]
  · exact (eval_resize env _ hw).1 ra ea
  · exact (eval_resize env _ hw).2 ra ea
  · exact ((C02.conv_correct _ _ _).2.2 ra hw).symm
  · subst hw
    exact ⟨ra, rfl⟩
  · subst hw
    exact ⟨inRange_wrapU hw1 _, by simp only [vconv, inj, pat, enc_wrapU]⟩
  · subst hw
    exact ⟨inRange_wrapU hw1 _, by simp only [inj, pat, enc_wrapU]⟩
  · subst hw
    exact ⟨ra, rfl⟩
  · subst hw
    exact ⟨inRange_wrapS hw1 _, by simp only [vconv, inj, enc_wrapS]⟩

/-- the induction over `Expr`: the cases above are the minor premises of its recursor, in the order of the constructors -/
theorem C02.case_all (env : Env) (e : Expr) : Good env e :=
  e.rec (C02.case_port env) (C02.case_lit env) (C02.case_intc env) (C02.case_arith env) (C02.case_bitop env)
    (C02.case_inv env) (C02.case_neg env) (C02.case_abs env) (C02.case_cmp env) (C02.case_shl env)
    (C02.case_shr env) (C02.case_concat env) (C02.case_index env) (C02.case_slice env) (C02.case_indexRt env)
    (C02.case_asSgn env) (C02.case_asUns env) (C02.case_asBv env) (C02.case_resize env) (C02.case_truth env)
    (C02.case_lnot env) (C02.case_land env) (C02.case_lor env) (C02.case_ite env) (C02.case_sel env)
    (C02.case_conv env)

/-- C02 on the model, FULL strength: for every expression tree (all 27 constructors: ports, typed constants,
    Python ints on either side, + - * truncdiv % rem, & | ^ ~, neg, abs, all six comparisons, << >>, @, constant
    index / slice, run-time index, .signed / .unsigned / .bitvector, resize, bool() / not / and / or (hence chained
    comparisons and any / all), if-expression, select_with, implicit conversion of a result driving a target of another type), every width and every operand valuation of the
    documented domain (`defined`: no division by zero), the VHDL expression the back end prints evaluates under
    numeric_std / std_logic_1164 to the documented value with the documented type and width, and that value lies
    in the range of the type. -/
theorem C02.lower_correct (env : Env) (e : Expr) (t : Ty) (ht : typeOf e = .ok t) (hd : defined e env = true) :
    InRange t (evalSpec e env) ∧ evalV (lower e) env = inj t (evalSpec e env) :=
  C02.case_all env e t ht hd

/-- result type and width of the emitted expression are the documented ones -/
theorem C02.lower_type (env : Env) (e : Expr) (t : Ty) (ht : typeOf e = .ok t) (hd : defined e env = true) :
    ∃ v, InRange t v ∧ evalV (lower e) env = inj t v :=
  ⟨evalSpec e env, C02.lower_correct env e t ht hd⟩

/-- non-vacuity: a well-typed, defined expression using operators of several families
    `((p0 - 3) * p1.resize(3))[6:2].signed >> p2  if  (p0 < p1 and not p3)  else  -p4` -/
example :
    let e : Expr := .ite (.land (.cmp .lt (.port 0 (.sgn 4)) (.port 1 (.sgn 2))) (.lnot (.port 3 .bit)))
      (.shr (.asSgn (.slice (.arith .mul (.arith .sub (.port 0 (.sgn 4)) (.intc 3)) (.resize (.port 1 (.sgn 2)) 3)) 6 2))
            (.port 2 (.uns 2)))
      (.neg (.port 4 (.sgn 5)))
    typeOf e = .ok (.sgn 5) ∧ defined e [-8, -2, 3, 0, -16] = true :=
  ⟨rfl, rfl⟩

/-- a chained comparison `1 < a <= 9` and `any([a, x])` are instances (conjunction / disjunction of the parts) -/
example : typeOf (.land (.cmp .lt (.intc 1) (.port 0 (.uns 4))) (.cmp .le (.port 0 (.uns 4)) (.intc 9))) = .ok .bool ∧
    typeOf (.lor (.port 0 (.uns 4)) (.port 1 .bit)) = .ok .bool := ⟨rfl, rfl⟩
