import CohdlVerif.Lemmas.C06Lemmas
import CohdlVerif.Gen.C06Tables

/-! C06 - property theorems (declared with their full name `C06.<name>`; helper lemmas go to Lemmas/) -/

/-!
  What is proved here is the NAMING part of C06, for every input of the mechanism (all used sets, all raw
  names, all scope contents), plus two finite obligations on the reserved-word tables REGENERATED from
  /repo's source on every run (Gen/C06Tables.lean).  The universal claim "every accepted design yields legal
  VHDL" needs a model of the whole back end and is NOT proved: the rest of the property is established per
  design by harness/vhdl_check.py on the real emitted text (see notes/C06.md).
-/

namespace CohdlVerif.C06

/-- IEEE 1076-2008, 15.10 reserved words (spec list, independent of the compiler's table) -/
def vhdl2008Words : List String := [
  "abs", "access", "after", "alias", "all", "and", "architecture", "array", "assert", "assume",
  "assume_guarantee", "attribute", "begin", "block", "body", "buffer", "bus", "case", "component",
  "configuration", "constant", "context", "cover", "default", "disconnect", "downto", "else", "elsif", "end",
  "entity", "exit", "fairness", "file", "for", "force", "function", "generate", "generic", "group", "guarded",
  "if", "impure", "in", "inertial", "inout", "is", "label", "library", "linkage", "literal", "loop", "map",
  "mod", "nand", "new", "next", "nor", "not", "null", "of", "on", "open", "or", "others", "out", "package",
  "parameter", "port", "postponed", "procedure", "process", "property", "protected", "pure", "range",
  "record", "register", "reject", "release", "rem", "report", "restrict", "restrict_guarantee", "return",
  "rol", "ror", "select", "sequence", "severity", "shared", "signal", "sla", "sll", "sra", "srl", "strong",
  "subtype", "then", "to", "transport", "type", "unaffected", "units", "until", "use", "variable", "vmode",
  "vprop", "vunit", "wait", "when", "while", "with", "xnor", "xor"]

/-- predefined names (types, numeric_std / std_logic_1164 functions, the helper function, literals, the
    library of instantiated entities) that the text printed by `_vhdl_repr.py` itself relies on.  The harness
    checks on every emitted text that each identifier that is neither declared by the text nor a reserved
    word is in this list (completeness of the list for the generated corpus). -/
def predefinedUsed : List String := [
  "std_logic", "std_logic_vector", "unsigned", "signed", "boolean", "integer", "string",
  "to_unsigned", "to_signed", "to_integer", "resize", "shift_left", "shift_right",
  "rising_edge", "falling_edge", "cohdl_bool_to_std_logic", "true", "false", "work"]

def nm (s : String) : Name := s.toList

/-- names assigned in the scopes that are visible from process `p` -/
def visible (a : Assigned) (p : List Name) : List Name :=
  a.moduleNames ++ a.entityNames ++ a.archNames ++ p

/-- the used set a `ModuleScope` starts from -/
def moduleUsed (d : Design) : List Name := d.reserved ++ d.additional.map lower

end CohdlVerif.C06

open CohdlVerif.C06

/-- The collision search returns a name whose lower-case form is not taken - for EVERY used set and base
    name.  (The doubling phase ends by a pigeonhole argument on the finite used set; the bisection keeps
    "the current candidate is free" as invariant although freeness is not monotone in the suffix.) -/
theorem C06.suffix_search_fresh (used : List Name) (base : Name) : lower (pick used base) ∉ used :=
  pick_fresh used base

example : pick ["a".toList, "a1".toList, "a2".toList, "a4".toList] "A".toList = "A5".toList := by decide +kernel

/-- freeness is not monotone in the suffix (4 is free, 5..7 are not, 8 is): the bisection is not a binary
    search for the least free suffix, it only ever moves to candidates it has just tested -/
example : pick (["a", "a1", "a2", "a3", "a5", "a6", "a7"].map String.toList) "a".toList = "a4".toList := by decide +kernel
example : pick (["a", "a1", "a2", "a4", "a5", "a6", "a7"].map String.toList) "a".toList = "a8".toList := by decide +kernel

/-- every assigned name is a VHDL basic identifier `letter { [_] letter_or_digit }` - whatever the raw names are
    (holds for the repaired `complete_setup`; the two substituted spellings `cfg.empty` / `cfg.pre` are inputs
    read from the compiler, they only have to be identifiers themselves: `goodCfg`) -/
theorem C06.assignNames_basic_identifier (d : Design) (hcfg : goodCfg d.cfg = true) :
    (∀ n ∈ (assignDesign d).moduleNames, basicId n = true) ∧
    (∀ n ∈ (assignDesign d).entityNames, basicId n = true) ∧
    (∀ n ∈ (assignDesign d).archNames, basicId n = true) ∧
    (∀ p ∈ (assignDesign d).procNames, ∀ n ∈ p, basicId n = true) := by
  refine ⟨?_, ?_, ?_, ?_⟩
  · exact assignScope_basicId d.cfg hcfg _ _
  · exact assignScope_basicId d.cfg hcfg _ _
  · exact assignScope_basicId d.cfg hcfg _ _
  · intro p hp n hn
    obtain ⟨raws, _, rfl⟩ := List.mem_map.mp hp
    exact assignScope_basicId d.cfg hcfg _ _ n hn

example : sanitize "a__b".toList = "a_b".toList ∧ sanitize "_".toList = "unnamed".toList ∧
    sanitize "1x".toList = "n1x".toList ∧ sanitize "x_".toList = "x".toList ∧ sanitize "a b".toList = "a_b".toList := by decide +kernel

/-- module and entity scope run from the module's used set; architecture and process scope from what these left
    plus the entity's `reserved_names` -/
theorem CohdlVerif.C06.assignDesign_ok (d : Design) : ∀ p ∈ (assignDesign d).procNames, ∃ uE u,
    ScopeOk (moduleUsed d) ((assignDesign d).moduleNames ++ (assignDesign d).entityNames) uE ∧
    ScopeOk (uE ++ d.archReserved.map lower) ((assignDesign d).archNames ++ p) u := by
  intro p hp
  obtain ⟨raws, _, rfl⟩ := List.mem_map.mp hp
  exact ⟨_, _, (assignScope_ok d.cfg d.moduleDecls _).append (assignScope_ok d.cfg d.entityDecls _) fun _ h => h,
    (assignScope_ok d.cfg d.archDecls _).append (assignScope_ok d.cfg raws _) fun _ h => h⟩

/-- Names visible together (module, entity, architecture and one process scope) are pairwise distinct
    case-insensitively. -/
theorem C06.assignNames_injective (d : Design) :
    ∀ p ∈ (assignDesign d).procNames, ((visible (assignDesign d) p).map lower).Nodup := by
  intro p hp
  obtain ⟨uE, u, h1, h2⟩ := assignDesign_ok d p hp
  rw [visible, List.append_assoc]
  exact (h1.append h2 fun _ h => List.mem_append_left _ h).nodup

example : goodCfg defaultCfg = true := by decide +kernel

example : assignDesign ⟨defaultCfg, [nm "signal"], [], [nm "E"], [nm "clk", nm "Signal", nm "e"], [], [nm "CLK", nm "e1"], [[nm "clk1"]]⟩ =
    ⟨[nm "E"], [nm "clk", nm "Signal1", nm "e1"], [nm "CLK1", nm "e11"], [[nm "clk11"]]⟩ := by decide +kernel

/-- No assigned name is (case-insensitively) in the reserved set the module scope starts from, nor - inside
    the architecture - in the entity's `reserved_names`. -/
theorem C06.assignNames_avoid_reserved (d : Design) :
    (∀ p ∈ (assignDesign d).procNames, ∀ n ∈ visible (assignDesign d) p, lower n ∉ moduleUsed d) ∧
    (∀ p ∈ (assignDesign d).procNames, ∀ n ∈ (assignDesign d).archNames ++ p, lower n ∉ d.archReserved.map lower) := by
  refine ⟨fun p hp n hn => ?_, fun p hp n hn hin => ?_⟩
  · obtain ⟨uE, u, h1, h2⟩ := assignDesign_ok d p hp
    rw [visible, List.append_assoc] at hn
    exact (h1.append h2 fun _ h => List.mem_append_left _ h).fresh n hn
  · obtain ⟨uE, u, _, h2⟩ := assignDesign_ok d p hp
    exact h2.fresh n hn (List.mem_append_right _ hin)

/-- Both spec lists against the compiler's table, in one evaluation by the kernel.  Byte sizes are compared before
    strings: comparing two strings is the dear step, and most pairs differ in size. -/
theorem CohdlVerif.C06.reserved_covers : ∀ w ∈ vhdl2008Words ++ predefinedUsed, w ∈ Gen.reserved := by
  have h : (vhdl2008Words ++ predefinedUsed).all
      (fun w => Gen.reserved.any fun r => r.utf8ByteSize == w.utf8ByteSize && r == w) = true := by decide +kernel
  intro w hw
  obtain ⟨r, hr, h⟩ := List.any_eq_true.mp (List.all_eq_true.mp h w hw)
  exact eq_of_beq (Bool.and_eq_true_iff.mp h).2 ▸ hr

/-- The compiler's reserved table (regenerated from the current source) contains every VHDL-2008 reserved word. -/
theorem C06.reserved_covers_vhdl2008 : ∀ w ∈ vhdl2008Words, w ∈ Gen.reserved :=
  fun w h => reserved_covers w (List.mem_append_left _ h)

/-- ... and every predefined name the back end prints. -/
theorem C06.reserved_covers_predefined_used : ∀ w ∈ predefinedUsed, w ∈ Gen.reserved :=
  fun w h => reserved_covers w (List.mem_append_right _ h)

/-- Consequence for a module scope that starts from the regenerated table: no assigned name is a VHDL-2008
    reserved word or a predefined name the text relies on, in any letter case. -/
theorem C06.names_never_reserved_or_predefined (d : Design)
    (hres : ∀ w ∈ Gen.reserved, w.toList ∈ d.reserved) :
    ∀ p ∈ (assignDesign d).procNames, ∀ n ∈ visible (assignDesign d) p,
      ∀ w ∈ vhdl2008Words ++ predefinedUsed, lower n ≠ w.toList := by
  intro p hp n hn w hw heq
  exact (C06.assignNames_avoid_reserved d).1 p hp n hn
    (heq ▸ List.mem_append_left _ (hres w (reserved_covers w hw)))

example : ∃ d : Design, (∀ w ∈ Gen.reserved, w.toList ∈ d.reserved) ∧ (assignDesign d).procNames ≠ [] :=
  ⟨⟨defaultCfg, Gen.reserved.map String.toList, [], [], [], [], [], [[]]⟩,
   fun w h => List.mem_map.mpr ⟨w, h, rfl⟩, by simp [assignDesign]⟩
