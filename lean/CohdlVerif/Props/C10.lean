import CohdlVerif.Lemmas.C10Lemmas

/-!
  C10 - property theorems about the hand-re-implemented pieces of Python semantics in cohdl's tracer
  (models and specifications: Model/C10.lean, helper lemmas: Lemmas/C10Lemmas.lean).
  Everything else the property talks about (closures, classes, super(), comprehensions ...) is covered only
  by the differential run of harness/c10.py - no model of CPython as a whole is attempted.
-/
open CohdlVerif.C10

/-- C10 (binding), full strength: for EVERY signature (any mix of positional-only, positional-or-keyword,
    `*args`, keyword-only, `**kwargs` parameters and defaults) and EVERY call shape, `bind_args` binds exactly
    what CPython binds and rejects exactly what CPython rejects.  The only hypothesis is what Python's grammar
    guarantees (a duplicate parameter name is a SyntaxError). -/
theorem C10.bind_equiv (s : Sig) (c : Call) (h : s.wf) : bindModel s c = cpyBind s c := by
  -- Follow `bind_args` loop by loop (closed forms); the specification makes its checks in another order.  Shared
  -- sub-terms are generalised as soon as they agree: `simp only` / `rw` on the full terms are slow.
  obtain ⟨hPA, hndK, hAK⟩ := List.nodup_append.mp h
  have hndA := (List.nodup_append.mp hPA).2.1
  unfold bindModel cpyBind
  simp only [posonlyLoop_eq]
  generalize hX : c.kw.filter (fun kv => !(s.args ++ s.kwonly).contains kv.1) = X
  generalize hF1 : fill (fun p => lookup p s.defaults) s.posonly c.pos = F1
  generalize hF4 : fill (fun k => firstOf (lookup k c.kw) (lookup k s.kwdefaults)) s.kwonly [] = F4
  cases hG : s.posonly.any fun p => (lookup p c.kw).isSome && s.kwarg.isNone
  case true =>
    obtain ⟨p, hp, hg⟩ := List.any_eq_true.mp hG
    obtain ⟨hl, hk⟩ := Bool.and_eq_true_iff.mp hg
    have hx := extra_nonempty s.posonly s.args s.kwonly c.kw h p hp hl
    rw [hX] at hx
    simp only [hk, hx, Bool.not_false, Bool.and_self, if_true, ite_self]
  case false =>
    rw [if_neg Bool.false_ne_true]
    cases F1 with
    | none => simp only [Option.map_none, ite_self]
    | some e1 =>
      simp only [Option.map_some, argsLoop_eq s s.args hndA, List.length_drop]
      generalize hF2 : fill (fun a => firstOf (lookup a c.kw) (lookup a s.defaults)) s.args
        (c.pos.drop s.posonly.length) = F2
      cases hA : (s.args.take (c.pos.length - s.posonly.length)).any fun a => (lookup a c.kw).isSome
      case true => rw [if_pos rfl, if_pos rfl, ite_self]
      case false =>
        rw [if_neg Bool.false_ne_true, if_neg Bool.false_ne_true]
        cases F2 with
        | none => simp only [Option.map_none, ite_self]
        | some e2 =>
          simp only [Option.map_some, kwonlyLoop_eq s s.kwonly hndK, List.drop_drop, List.length_append]
          rw [fill_lookup_filter (fun k => !(s.args.drop (c.pos.length - s.posonly.length)).contains k) c.kw _ _ _
              (fun k hk => by simpa using fun hm => hAK k (List.mem_append_right _ (List.mem_of_mem_drop hm)) k hk rfl),
            leftover_eq s.args s.kwonly c.kw _ hA, hX, hF4]
          simp only [isEmpty_drop]
          generalize c.pos.drop (s.posonly.length + s.args.length) = rest
          generalize decide (s.posonly.length + s.args.length < c.pos.length) = over
          cases F4 with
          | none =>
            simp only [Option.map_none, ite_self]
            split <;> rfl
          | some e4 =>
            simp only [Option.map_some]
            cases s.kwarg with
            | none =>
              simp only [Option.isNone_none, Bool.true_and]
              cases X.isEmpty
              · simp only [Bool.not_false, if_true, ite_self, Bool.false_eq_true, if_false]
                split <;> rfl
              · simp only [Bool.not_true, Bool.false_eq_true, if_false, if_true, List.append_nil]
                cases s.vararg with
                | none => cases over <;> rfl
                | some n => rfl
            | some n =>
              simp only [Option.isNone_some, Bool.false_and, Bool.false_eq_true, if_false]
              cases s.vararg with
              | none => cases over <;> rfl
              | some n => rfl

/-- non-vacuity: `def f(a, /, b, c=30, *args, k, d=50, **kw)` called as `f(1, 2, 3, 4, k=7, z=9)` -/
example : bindModel ⟨[1], [2, 3], some 4, [5, 6], some 7, [(3, 30)], [(6, 50)]⟩ ⟨[10, 20, 31, 41], [(5, 70), (9, 90)]⟩
    = some [(1, .val 10), (2, .val 20), (3, .val 31), (4, .tup [41]), (5, .val 70), (6, .val 50), (7, .dict [(9, 90)])] := by
  decide +kernel
example : Sig.wf ⟨[1], [2, 3], some 4, [5, 6], some 7, [(3, 30)], [(6, 50)]⟩ := by unfold Sig.wf; decide
/-- a rejected call: `def f(a, /, b)` called as `f(1, a=2)` (positional-only name as keyword, no `**kw`) -/
example : cpyBind ⟨[1], [2], none, [], none, [], []⟩ ⟨[10], [(1, 20)]⟩ = none := by decide +kernel

/-- C10 (starred targets), full strength: `_split_target` accepts a source for `n` targets with the starred
    one at position `i` exactly when the source splits as `pre ++ mid ++ post` with `i` elements before and
    `n-i-1` elements after the star, and then yields exactly Python's assignment (7.2): the plain targets
    get `pre` / `post` element-wise, the starred target gets `mid`. -/
theorem C10.splitTarget_spec {α : Type} (n i : Nat) (hi : i < n) (src : List α) (items : List (Item α)) :
    splitTarget n (some i) src = some items ↔
      ∃ pre mid post, src = pre ++ mid ++ post ∧ pre.length = i ∧ post.length = n - i - 1 ∧
        items = pre.map .one ++ [.many mid] ++ post.map .one := by
  obtain ⟨a, rfl⟩ := Nat.exists_eq_add_of_lt hi
  rw [Nat.add_assoc i a 1, Nat.add_sub_cancel_left, Nat.add_sub_cancel, ← Nat.add_assoc]
  constructor
  · intro h
    by_cases hlen : i + a ≤ src.length
    · obtain ⟨pre, mid, post, rfl, rfl, rfl⟩ := exists_append3 i a src hlen
      rw [splitTarget_append] at h
      exact ⟨pre, mid, post, rfl, rfl, rfl, (Option.some.inj h).symm⟩
    · rw [splitTarget, Nat.add_sub_cancel, if_pos (Nat.lt_of_not_le hlen)] at h
      exact nomatch h
  · rintro ⟨pre, mid, post, rfl, rfl, rfl, rfl⟩
    exact splitTarget_append pre mid post

/-- without a starred target the source must have exactly `n` elements and is assigned element-wise -/
theorem C10.splitTarget_plain {α : Type} (n : Nat) (src : List α) (items : List (Item α)) :
    splitTarget n none src = some items ↔ src.length = n ∧ items = src.map .one := by
  unfold splitTarget
  by_cases h : src.length = n <;> simp [h, eq_comm]

/-- non-vacuity: `a, *b, c = [1,2,3,4,5]` and the shortest accepted source `a, *b, c = [1,2]` -/
example : splitTarget 3 (some 1) [1, 2, 3, 4, 5] = some [.one 1, .many [2, 3, 4], .one 5] := by decide +kernel
example : splitTarget 3 (some 1) [1, 2] = some [.one 1, .many [], .one 2] := by decide +kernel
example : splitTarget 3 (some 1) [1] = none := by decide +kernel

/-- C10 (and/or yield the truth value), full strength: for every operand list and every notion of truthiness
    the folded constant is the truth value of the operand Python's `and` / `or` returns. -/
theorem C10.boolop_truth {α : Type} (truthy : α → Bool) (op : BOp) (x : α) (r : List α) :
    foldBoolOp op ((x :: r).map truthy) = truthy (pyBoolOp truthy op x r).1 := by
  induction r generalizing x with
  | nil => cases op <;> simp [foldBoolOp, pyBoolOp]
  | cons y r ih =>
    rw [pyBoolOp_cons, List.map_cons]
    cases op <;> cases hx : truthy x <;> simp [foldBoolOp, hx, ← ih y]

/-- Python never evaluates more operands than the tracer (which evaluates all of them) ... -/
theorem C10.boolop_evaluated_le {α : Type} (truthy : α → Bool) (op : BOp) (x : α) (r : List α) :
    (pyBoolOp truthy op x r).2 ≤ foldBoolOpEvaluated op ((x :: r).map truthy) := by
  induction r generalizing x with
  | nil => exact Nat.le_refl 1
  | cons y r ih =>
    rw [pyBoolOp_cons]
    cases op <;> cases truthy x
    · exact Nat.le_add_left 1 _
    · exact Nat.succ_le_succ (ih y)
    · exact Nat.succ_le_succ (ih y)
    · exact Nat.le_add_left 1 _

/- ... but the unrestricted statement "the tracer evaluates exactly the operands Python evaluates"
       ∀ truthy op x r, (pyBoolOp truthy op x r).2 = foldBoolOpEvaluated op ((x :: r).map truthy)
   is FALSE of the current code: there is no short-circuit (finding C10 `boolop-no-short-circuit`). -/
theorem C10.boolop_short_circuit_fails_at :
    ¬ ∀ (op : BOp) (x : Nat) (r : List Nat),
      (pyBoolOp (fun n => n != 0) op x r).2 = foldBoolOpEvaluated op ((x :: r).map fun n => n != 0) := by
  intro h
  exact absurd (h .and 0 [1]) (by decide)

/-- the two agree exactly when no operand before the last one decides the result -/
theorem C10.boolop_evaluated_partial {α : Type} (truthy : α → Bool) (op : BOp) (x : α) (r : List α)
    (h : ∀ y ∈ (x :: r).dropLast, truthy y = (match op with | .and => true | .or => false)) :
    (pyBoolOp truthy op x r).2 = foldBoolOpEvaluated op ((x :: r).map truthy) := by
  induction r generalizing x with
  | nil => rfl
  | cons y r ih =>
    have hx := h x List.mem_cons_self
    rw [pyBoolOp_cons, if_neg (by cases op <;> simp [hx]), ih y fun z hz => h z (List.mem_cons_of_mem x hz)]
    rfl

example : ∀ y ∈ ([3, 5, 0] : List Nat).dropLast, (fun n : Nat => n != 0) y = true := by decide +kernel

/-- C10 (chained comparison), value: `x0 op0 x1 op1 x2 ...` folds to `(x0 op0 x1) and (x1 op1 x2) and ...`
    for every number of links and every outcome of the links -/
theorem C10.compare_chain (link : Nat → Bool) (n : Nat) :
    (foldCompareChain link n).1 = (pyChain link n).1 ∧ (foldCompareChain link n).1 = allLinks link n := by
  have h := cmpLoop_val link 0 n
  simp only [foldCompareChain, pyChain, allLinks, List.range_eq_range']
  exact ⟨h.1, h.2.1⟩

/-- the comparisons performed (and their order) are exactly CPython's: no link is dropped, repeated or
    evaluated after a false one -/
theorem C10.compare_chain_links (link : Nat → Bool) (n : Nat) :
    (foldCompareChain link n).2.filter Ev.isCmp = (pyChain link n).2.filter Ev.isCmp := by
  rw [foldCompareChain_trace, pyChain_trace, List.filter_append, (operands_filter _).2, (cmpLoop_val link 0 n).2.2]
  simp only [List.filter_filter, Bool.and_self]
  rfl

/-- single evaluation: the operand evaluations of the tracer are operand 0, 1, ..., n - each exactly once,
    in source order, whatever the links evaluate to -/
theorem C10.compare_chain_single_eval (link : Nat → Bool) (n : Nat) :
    (foldCompareChain link n).2.filter (fun e => !e.isCmp) = (List.range (n + 1)).map Ev.operand := by
  rw [foldCompareChain_trace, List.filter_append, (operands_filter _).1, cmpLoop_filter, List.append_nil]

/- the unrestricted statement "same evaluation trace"  ∀ link n, (foldCompareChain link n).2 = (pyChain link n).2
   is FALSE of the current code: all operands are evaluated up front, so an operand behind a false link is
   evaluated although CPython skips it (finding C10 `chain-no-short-circuit`). -/
theorem C10.compare_chain_trace_fails_at :
    ¬ ∀ (link : Nat → Bool) (n : Nat),
      (foldCompareChain link n).2.filter (fun e => !e.isCmp) = (pyChain link n).2.filter (fun e => !e.isCmp) := by
  intro h
  exact absurd (h (fun _ => false) 2) (by decide)

/-- ... it holds whenever no link before the last one is false (then nothing is skipped by CPython) -/
theorem C10.compare_chain_trace_partial (link : Nat → Bool) (n : Nat) (h : ∀ j, j + 1 < n → link j = true) :
    (foldCompareChain link n).2.filter (fun e => !e.isCmp) = (pyChain link n).2.filter (fun e => !e.isCmp) := by
  rw [C10.compare_chain_single_eval, pyChain_trace, List.filter_cons_of_pos (by rfl),
    pyChainFrom_operands link 0 n fun j _ h2 => h j (by omega), List.range_eq_range', List.range'_succ]
  rfl

example : ∀ j, j + 1 < 3 → (fun i => decide (i < 2)) j = true := by intro j hj; simp; omega

/- C10 (operator dispatch), unrestricted statement - every value CPython computes for `lhs op rhs` is
   computed by the tracer through the same special-method calls:
       ∀ c, c.wf → ∀ calls v, cpyBinOp c = (calls, some v) → dispatchBinOp c = (calls, some v)
   It is FALSE of the current code: the subclass-priority rule for reflected operators is missing
   (`class B(A)` overriding `__radd__`: `A(1) + B(2)` is `B.__radd__` in CPython, `A.__add__` in the tracer). -/
theorem C10.dispatch_equiv_fails_at :
    ¬ ∀ c : BinCfg, c.wf = true → ∀ calls v, cpyBinOp c = (calls, some v) → dispatchBinOp c = (calls, some v) := by
  intro h
  have := h ⟨false, true, true, some (.val 1), some (.val 2)⟩ (by decide) [.r] 2 (by decide)
  exact absurd this (by decide)

/-- with the priority test added (fixes/C10-reflected-priority.patch) the unrestricted statement holds -/
theorem C10.dispatch_fixed_equiv (c : BinCfg) (calls : List MCall) (v : Val)
    (h : cpyBinOp c = (calls, some v)) : dispatchBinOpFixed c = (calls, some v) := by
  cases hs : c.same
  · rw [dispatchBinOpFixed_difftype c hs]
    exact h
  · rw [dispatchBinOpFixed_of_not_priority c (by simp [BinCfg.priority, hs])]
    exact dispatchBinOp_sametype c hs calls v h

/-- the restricted statement: whenever CPython's priority rule does not apply (rhs type is not a proper
    subclass of the lhs type that overrides the reflected method) the tracer computes every value CPython
    computes, calling the same special methods in the same order -/
theorem C10.dispatch_equiv_partial (c : BinCfg) (hp : c.priority = false) (calls : List MCall) (v : Val)
    (h : cpyBinOp c = (calls, some v)) : dispatchBinOp c = (calls, some v) := by
  rw [← dispatchBinOpFixed_of_not_priority c hp]
  exact C10.dispatch_fixed_equiv c calls v h

/-- for operands of different types (and no priority case) the tracer and CPython agree completely: same
    calls, same value, same reject decision -/
theorem C10.dispatch_equiv_difftype (c : BinCfg) (hp : c.priority = false) (hs : c.same = false) :
    dispatchBinOp c = cpyBinOp c := by
  rw [← dispatchBinOpFixed_of_not_priority c hp]
  exact dispatchBinOpFixed_difftype c hs

/-- non-vacuity: `5 + Num(2)` (int.__add__ returns NotImplemented, Num.__radd__ answers) -/
example : BinCfg.priority ⟨false, false, true, some .notImpl, some (.val 7)⟩ = false ∧
    cpyBinOp ⟨false, false, true, some .notImpl, some (.val 7)⟩ = ([.l, .r], some 7) := by decide +kernel

/-- C10 (operator dispatch on class hierarchies), unrestricted: wherever in the MROs the special methods are
    defined (own body, parent, grandparent, mixin, alias of an inherited function), the dispatch that decides
    "provides a different reflected method" by MRO lookup + identity computes every value CPython computes,
    with the same calls in the same order -/
theorem C10.dispatch_hier_equiv (h : HierCfg) (calls : List MCall) (v : Val)
    (hc : cpyHier h = (calls, some v)) : dispatchHier h = (calls, some v) :=
  C10.dispatch_fixed_equiv h.toBin calls v hc

/-- deciding the priority by "the reflected method is written in the right operand's own class body" is NOT
    CPython's rule: `A <- B (defines __rsub__) <- C`, `A() - C()` (seeded/C10-reflected-binop-inherited) -/
theorem C10.dispatch_own_dict_fails_at :
    ¬ ∀ h : HierCfg, ∀ calls v, cpyHier h = (calls, some v) → dispatchBinOpFixed h.toBinOwnDict = (calls, some v) := by
  intro hall
  have := hall ⟨false, true, 1, 2, [⟨[(1, 10)]⟩], [⟨[]⟩, ⟨[(2, 20)]⟩, ⟨[(1, 10)]⟩], [(10, .val 1), (20, .val 2)]⟩ [.r] 2 (by decide +kernel)
  exact absurd this (by decide +kernel)

/-- non-vacuity: the mixin shape `class C(Mixin, A)` with `Mixin.__rsub__` -/
example : cpyHier ⟨false, true, 1, 2, [⟨[(1, 10)]⟩], [⟨[]⟩, ⟨[(2, 20)]⟩, ⟨[(1, 10)]⟩], [(10, .val 1), (20, .val 2)]⟩ = ([.r], some 2) := by
  decide +kernel

/- rich comparisons, unrestricted statement
       ∀ c, c.wf → ∀ calls b, cpyCmp c = (calls, some b) → dispatchCmp c = (calls, some b) ∨ (dispatchCmp c).2 = none
   FALSE of the current code (`class B(A)`: `A() < B()` calls `B.__gt__` first in CPython). -/
theorem C10.cmp_dispatch_fails_at :
    ¬ ∀ c : CmpCfg, c.wf = true → ∀ calls b, cpyCmp c = (calls, some b) →
        dispatchCmp c = (calls, some b) ∨ (dispatchCmp c).2 = none := by
  intro h
  have := h ⟨.ord, false, true, false, .val true, .val false⟩ (by decide) [.r] false (by decide)
  exact absurd this (by decide)

/-- with the priority test added: every value CPython computes is computed by the tracer with the same calls,
    or the tracer rejects (it has no identity fallback for `==` / `!=`) -/
theorem C10.cmp_dispatch_fixed (c : CmpCfg) (calls : List MCall) (b : Bool)
    (h : cpyCmp c = (calls, some b)) : dispatchCmpFixed c = (calls, some b) ∨ dispatchCmpFixed c = (calls, none) := by
  obtain ⟨h1, h2⟩ := dispatchCmpFixed_agrees c
  rw [h] at h1 h2
  exact h2.imp (Prod.ext h1) (Prod.ext h1)

/-- the current tree does the same whenever the priority case does not arise -/
theorem C10.cmp_dispatch_partial (c : CmpCfg) (hp : c.priority = false) (calls : List MCall) (b : Bool)
    (h : cpyCmp c = (calls, some b)) : dispatchCmp c = (calls, some b) ∨ dispatchCmp c = (calls, none) := by
  rw [← dispatchCmpFixed_of_not_priority c hp]
  exact C10.cmp_dispatch_fixed c calls b h

/-- and every value the tracer computes is CPython's -/
theorem C10.cmp_dispatch_sound_partial (c : CmpCfg) (hp : c.priority = false) (calls : List MCall) (b : Bool)
    (h : dispatchCmp c = (calls, some b)) : cpyCmp c = (calls, some b) := by
  rw [← dispatchCmpFixed_of_not_priority c hp] at h
  exact dispatchCmpFixed_sound c calls b h

example : CmpCfg.priority ⟨.ord, false, false, false, .notImpl, .val true⟩ = false ∧
    cpyCmp ⟨.ord, false, false, false, .notImpl, .val true⟩ = ([.l, .r], some true) := by decide +kernel
