import CohdlVerif.Lemmas.C03Lemmas
import CohdlVerif.Lemmas.C03Conc

/-! C03 - property theorems (declared with their full name `C03.<name>`; helper lemmas are in Lemmas/C03Lemmas.lean and
  Lemmas/C03Conc.lean).

  The documented laws of a sequential context are theorems about the source-level semantics
  `Seq.activate` / `exec` (Model/C03.lean) for ALL bodies and states (structural induction over statements
  in the lemmas); `C03.lowerSeq_correct` relates it to the target-level reading of the emitted process. -/
open CohdlVerif.C03

/-- the state in which the body of an activation starts -/
abbrev CohdlVerif.C03.start (s : St) (i : Loc → Option Bool) : St := clearPend (setInputs i s)

/-! ## a signal assigned with `<<=` changes only after the activation: reads still see the old value -/

/-- Whatever ran before (`p`: any statements, any path), the signal store an expression reads is still the one
    the activation started with; an expression over signals evaluates to the same value at every point. -/
theorem C03.signal_read_sees_old (p : Stmt) (s : St) :
    (exec p s).1.sig = s.sig ∧ ∀ e : Expr, sigOnly e = true → eval e (exec p s).1 = eval e s :=
  ⟨exec_sig p s, fun e h => eval_sigOnly e _ _ h (exec_sig p s)⟩

/-- non-vacuity: `s0 <<= s0 + 1 ; o0 <<= s0` - o0 gets the OLD s0 (5), s0 becomes 6 -/
example :
    let s : St := ⟨fun l => (5 : Nat).testBit l.2.2 && l.1 == 11, fun _ => false, fun _ => none, fun _ => 0⟩
    let body := Stmt.seq (.assign .next ⟨11, .const 0, 0, 8⟩ (.add 8 (.rd .sig 11 (.const 0) 0 8) (.const 1)))
                         (.assign .next ⟨7, .const 0, 0, 8⟩ (.rd .sig 11 (.const 0) 0 8))
    let s' := Seq.activate (fun _ => none) body s (fun _ => none)
    (eval (.rd .sig 7 (.const 0) 0 8) s', eval (.rd .sig 11 (.const 0) 0 8) s') = (5, 6) := by decide +kernel

/-! ## the last assignment executed wins (per bit of a slice / array element) -/

/-- After any prefix `p` that does not return, an assignment `t <<= e` (or `t ^= e`) determines every bit it covers -
    whatever `p` assigned to them - and leaves all other locations as `p` left them. -/
theorem C03.last_assignment_wins (dflt : Loc → Option Bool) (p : Stmt) (m : Mode) (hm : m ≠ .value) (t : Target) (e : Expr)
    (s : St) (i : Loc → Option Bool) (hp : (exec p (start s i)).2 = false) (l : Loc) :
    (Seq.activate dflt (.seq p (.assign m t e)) s i).sig l =
      if inRange l t.obj (eval t.idx (exec p (start s i)).1) t.lo t.w
      then (eval e (exec p (start s i)).1).testBit (l.2.2 - t.lo)
      else (Seq.activate dflt p s i).sig l := by
  rw [activate_sig, activate_sig, exec_seq_of_not_ret hp]
  cases m with
  | value => exact absurd rfl hm
  | _ =>
    simp only [exec, doAssign, writeBits]
    split <;> rfl

example : (exec (Stmt.assign .next ⟨7, .const 0, 0, 8⟩ (.const 1)) (start ⟨fun _ => false, fun _ => false, fun _ => none, fun _ => 0⟩ (fun _ => none))).2 = false := rfl

/-! ## a signal not assigned on the executed path holds its value -/

/-- dynamic form (nothing pending for the location when the body ends) and static form (no assignment to the object
    anywhere in the body): the committed value is the old one.  `dflt l = none`: not a pushed signal. -/
theorem C03.unassigned_holds (dflt : Loc → Option Bool) (body : Stmt) (s : St) (i : Loc → Option Bool) (l : Loc)
    (hd : dflt l = none) :
    ((exec body (start s i)).1.pend l = none → (Seq.activate dflt body s i).sig l = (setInputs i s).sig l) ∧
    (writesObj body l.1 = false → (Seq.activate dflt body s i).sig l = (setInputs i s).sig l) := by
  constructor
  · intro h
    rw [activate_sig, h, hd]
    rfl
  · intro h
    rw [activate_sig, exec_pend_frame body _ l h, hd]
    rfl

example : writesObj (Stmt.ite (.const 1) (.assign .next ⟨7, .const 0, 0, 8⟩ (.const 1)) .skip) 8 = false := by decide

/-! ## a variable assigned with `@=` changes immediately -/

/-- The statements after `t @= e` run in the state in which the variable already has its new value, and a read of the
    same bits of the same element returns the assigned value (truncated to the target width). -/
theorem C03.variable_immediate (t : Target) (e : Expr) (q : Stmt) (s : St) :
    exec (.seq (.assign .value t e) q) s = exec q (doAssign .value t (eval e s) s) ∧
    eval (.rd .var t.obj (.const (eval t.idx s)) t.lo t.w) (doAssign .value t (eval e s) s) = eval e s % 2 ^ t.w :=
  ⟨exec_seq_of_not_ret rfl, bitsToNat_range _ _ _ _ _ _ (fun _ hl => if_pos hl)⟩

/-- non-vacuity / contrast: `v @= v + v ; o <<= v` sees the doubled value, whereas a signal would not -/
example :
    let s : St := ⟨fun _ => false, fun l => (3 : Nat).testBit l.2.2 && l.1 == 14, fun _ => none, fun _ => 0⟩
    let v := Expr.rd .var 14 (.const 0) 0 8
    let body := Stmt.seq (.assign .value ⟨14, .const 0, 0, 8⟩ (.add 8 v v)) (.assign .next ⟨7, .const 0, 0, 8⟩ v)
    eval (.rd .sig 7 (.const 0) 0 8) (Seq.activate (fun _ => none) body s (fun _ => none)) = 6 := by decide +kernel

/-! ## a signal assigned with `^=` carries the pushed value for exactly one step, its default otherwise -/

/-- For every bit of a pushed signal (default `d`): after the activation it holds the value pushed last in THIS
    activation if any push was executed, and the default `d` otherwise - independent of what it held before;
    in particular the default in every activation whose body contains no push to the object. -/
theorem C03.push_exactly_one_step (dflt : Loc → Option Bool) (body : Stmt) (s : St) (i : Loc → Option Bool) (l : Loc)
    (d : Bool) (hd : dflt l = some d) :
    (Seq.activate dflt body s i).sig l = ((exec body (start s i)).1.pend l).getD d ∧
    (writesObj body l.1 = false → (Seq.activate dflt body s i).sig l = d) := by
  constructor
  · rw [activate_sig, hd]
    rfl
  · intro h
    rw [activate_sig, exec_pend_frame body _ l h, hd]
    rfl

/-- non-vacuity: p0 (object 12, default 6, old value 200) pushed with 9 when c0 (object 0) is set: 9 in that step, 6 in a step without push -/
example :
    let dflt : Loc → Option Bool := fun l => if l.1 == 12 then some ((6 : Nat).testBit l.2.2) else none
    let s : St := ⟨fun l => (200 : Nat).testBit l.2.2 && l.1 == 12, fun _ => false, fun _ => none, fun _ => 0⟩
    let body := Stmt.ite (.rd .sig 0 (.const 0) 0 1) (.assign .push ⟨12, .const 0, 0, 8⟩ (.const 9)) .skip
    let on : Loc → Option Bool := fun l => if l.1 == 0 then some true else none
    let off : Loc → Option Bool := fun l => if l.1 == 0 then some false else none
    let s1 := Seq.activate dflt body s on
    let s2 := Seq.activate dflt body s1 off
    (eval (.rd .sig 12 (.const 0) 0 8) s1, eval (.rd .sig 12 (.const 0) 0 8) s2) = (9, 6) := by decide +kernel

/-! ## conditional constructs execute exactly the first branch whose condition holds, or the default -/

/-- if / elif / else, for-break and for-return chains (`chain`), and `match` (`matchChain`): the whole construct
    behaves exactly like the body of the FIRST branch whose condition holds in the state in which the construct is
    entered (including whether it returned), and like the else / default part when none holds. -/
theorem C03.first_true_branch_only (s : St) (d : Stmt) :
    (∀ brs : List (Expr × Stmt), exec (chain brs d) s =
      match brs.find? (fun b => eval b.1 s != 0) with
      | some b => exec b.2 s
      | none => exec d s) ∧
    (∀ (subj : Expr) (cases : List (Nat × Stmt)), exec (matchChain subj cases d) s =
      match cases.find? (fun c => eval subj s == c.1) with
      | some c => exec c.2 s
      | none => exec d s) := by
  constructor
  · intro brs
    induction brs with
    | nil => rfl
    | cons b brs ih =>
      rw [chain, List.foldr_cons, exec_ite, List.find?_cons]
      cases eval b.1 s != 0
      · exact ih
      · rfl
  · intro subj cases
    induction cases with
    | nil => rfl
    | cons c cs ih =>
      rw [matchChain, List.foldr_cons, exec_mcase, List.find?_cons]
      cases eval subj s == c.1
      · exact ih
      · rfl

/-- non-vacuity: two overlapping true conditions - only the first branch runs -/
example :
    let s : St := ⟨fun _ => false, fun _ => false, fun _ => none, fun _ => 0⟩
    let a (n : Nat) := Stmt.assign .next ⟨7, .const 0, 0, 8⟩ (.const n)
    let s' := (exec (chain [(.const 0, a 1), (.const 1, a 2), (.const 1, a 3)] (a 4)) s).1
    bitsToNat (fun b => (s'.pend (7, 0, b)).getD false) 8 = 2 := by decide +kernel

/-! ## a run-time index is captured when the element is accessed -/

/-- `r = arr[idx] ; q ; r <<= e` (or `@=`, `^=`): the element written is the one selected by the value `idx` had
    when the element was accessed, whatever `q` does to the operands of `idx` afterwards (`q` any statements that
    do not return and do not reuse the temporary). -/
theorem C03.index_captured_at_access (k : Nat) (idx : Expr) (q : Stmt) (m : Mode) (obj lo w : Nat) (e : Expr) (s : St)
    (hq : capturesTmp q k = false) (hr : (exec q (exec (.capture k idx) s).1).2 = false) :
    let s2 := (exec q (exec (.capture k idx) s).1).1
    (exec (.seq (.capture k idx) (.seq q (.assign m ⟨obj, .tmp k, lo, w⟩ e))) s).1
      = doAssign m ⟨obj, .const (eval idx s), lo, w⟩ (eval e s2) s2 := by
  intro s2
  have ht : s2.tmp k = eval idx s := by
    rw [exec_tmp_frame q _ k hq]
    exact if_pos (beq_self_eq_true k)
  rw [exec_seq_of_not_ret rfl, exec_seq_of_not_ret hr]
  show doAssign m ⟨obj, .tmp k, lo, w⟩ (eval e s2) s2 = _
  cases m <;> simp only [doAssign, eval, ht]

/-- non-vacuity: `r = arr[vi] ; vi @= vi + 1 ; r <<= 5` writes element 0 (the old vi), not element 1 -/
example :
    let s : St := ⟨fun _ => false, fun _ => false, fun _ => none, fun _ => 0⟩
    let vi := Expr.rd .var 16 (.const 0) 0 2
    let body := Stmt.seq (.capture 1 vi) (.seq (.assign .value ⟨16, .const 0, 0, 2⟩ (.add 2 vi (.const 1)))
                  (.assign .next ⟨17, .tmp 1, 0, 8⟩ (.const 5)))
    let s' := Seq.activate (fun _ => none) body s (fun _ => none)
    (eval (.rd .sig 17 (.const 0) 0 8) s', eval (.rd .sig 17 (.const 1) 0 8) s') = (5, 0) := by decide +kernel

/-! ## the emitted process computes the source-level activation -/

/-- Target-level execution of the lowered body (`lowerSeq`: returns = result temporary + closing of the block with the
    continuation appended to every open block, match = case / if chain, push = signal assignment after the prelude
    of defaults, local signals = alias temporary, captured indices = temporaries) equals `Seq.activate`, for all bodies,
    push declarations, states and inputs. -/
theorem C03.lowerSeq_correct (ps : List PushDecl) (body : Stmt) (s : St) (i : Loc → Option Bool) :
    procStep ps (lowerSeq body) s i = Seq.activate (pushDflt ps) body s i :=
  calc procStep ps (lowerSeq body) s i
      = commit (fun _ => none) (run (lowerSeq body) (overlay (pushDflt ps) (start s i))) := rfl
    _ = Seq.activate (pushDflt ps) body s i := by
      rw [run_lowerSeq, exec_overlay, commit_overlay]
      rfl

/-- non-vacuity: a helper returning from a nested branch followed by more statements; both levels agree -/
example :
    let s : St := ⟨fun l => l.1 == 0, fun _ => false, fun _ => none, fun _ => 0⟩
    let c0 := Expr.rd .sig 0 (.const 0) 0 1
    let body := Stmt.seq (.call (.seq (.ite c0 (.ret 1 (.const 11)) .skip) (.ret 1 (.const 22))))
                         (.assign .next ⟨7, .const 0, 0, 8⟩ (.tmp 1))
    eval (.rd .sig 7 (.const 0) 0 8) (procStep [] (lowerSeq body) s (fun _ => none)) = 11 := by decide +kernel

/-! ## a concurrent context, and everything hoisted with `cohdl.always`, continuously drives its targets with the current
    value of its operands -/

/-- After `settle` (accepted = acyclic dependencies, one driver per object) every concurrently driven location holds its
    expression evaluated ON THE SETTLED STATE - for all values of the operands -, nothing else changed, and no assignment has
    anything left to do (`drive c s1 = s1`: no further event). -/
theorem C03.concurrent_drives_current (cs : List CA) (s s1 : St) (h : settle cs s = some s1) :
    (∀ c ∈ cs, ∀ l : Loc, c.covers l = true → s1.sig l = (eval c.e s1).testBit (l.2.2 - c.lo)) ∧
    (∀ l : Loc, (∀ c ∈ cs, c.covers l = false) → s1.sig l = s.sig l) ∧
    s1.var = s.var ∧
    (∀ c ∈ cs, drive c s1 = s1) := by
  obtain ⟨ord, hmem, hw, rfl⟩ := settle_eq_some h
  have S := Sol_of_mem_iff hmem ((sol_iff ord s _ hw).mpr rfl)
  exact ⟨S.fix, S.frame, S.var, fun c hc => drive_eq_self (S.fix c hc)⟩

/-- non-vacuity: `q1 <= q0 + 1`, `q0 <= x + 2` listed against their dependency order settle to q0 = 7, q1 = 8 for x = 5;
    a combinational loop is rejected -/
example :
    let s : St := ⟨fun l => (5 : Nat).testBit l.2.2 && l.1 == 4, fun _ => false, fun _ => none, fun _ => 0⟩
    let rd (o : Nat) := Expr.rd .sig o (.const 0) 0 8
    let cs : List CA := [⟨20, 0, 0, 8, .add 8 (rd 19) (.const 1)⟩, ⟨19, 0, 0, 8, .add 8 (rd 4) (.const 2)⟩]
    ((settle cs s).map (fun t => (eval (rd 19) t, eval (rd 20) t)) = some (7, 8)) ∧
    ((settle [⟨19, 0, 0, 8, .add 8 (rd 19) (.const 1)⟩] s).isNone = true) := by decide +kernel

/-- The settled state does not depend on the order in which the assignments are listed or evaluated: two listings of the same
    assignments settle to the same state, and ANY two topological evaluation orders reach the same state. -/
theorem C03.settle_order_independent (cs cs' : List CA) (s : St) (hsame : ∀ c, c ∈ cs ↔ c ∈ cs') :
    (∀ s1 s2, settle cs s = some s1 → settle cs' s = some s2 → s1 = s2) ∧
    (wellOrdered cs = true → wellOrdered cs' = true → settleOrder cs s = settleOrder cs' s) := by
  refine ⟨fun s1 s2 h1 h2 => ?_, fun w1 w2 => settleOrder_perm hsame w1 w2 s⟩
  obtain ⟨o1, m1, w1, rfl⟩ := settle_eq_some h1
  obtain ⟨o2, m2, w2, rfl⟩ := settle_eq_some h2
  exact settleOrder_perm (fun c => ((m1 c).trans (hsame c)).trans (m2 c).symm) w1 w2 s

example :
    let rd (o : Nat) := Expr.rd .sig o (.const 0) 0 8
    wellOrdered [⟨19, 0, 0, 8, .add 8 (rd 4) (.const 2)⟩, ⟨20, 0, 0, 8, .add 8 (rd 19) (.const 1)⟩] = true := by decide

/-- An expression hoisted out of a sequential context (`with cohdl.always: t = e`, emitted as `sig_t <= e` in a concurrent
    block) has, wherever the sequential body reads it during an activation that starts from the settled state, exactly the
    value the expression itself has at that point (truncated to the width of the hoisted signal). -/
theorem C03.always_equals_inline (cs : List CA) (s st : St) (h : settle cs s = some st) (c : CA) (hc : c ∈ cs)
    (hs : sigOnly c.e = true) (p : Stmt) :
    eval (.rd .sig c.obj (.const c.elem) c.lo c.w) (exec p st).1 = eval c.e (exec p st).1 % 2 ^ c.w := by
  have hold := C03.signal_read_sees_old p st
  rw [hold.2 c.e hs, hold.2 (.rd .sig c.obj (.const c.elem) c.lo c.w) rfl]
  exact bitsToNat_range st.sig _ _ _ _ _ ((C03.concurrent_drives_current cs s st h).1 c hc)

example : sigOnly (Expr.add 8 (.rd .sig 4 (.const 0) 0 8) (.rd .sig 11 (.const 0) 0 8)) = true := by decide
