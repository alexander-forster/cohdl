import CohdlVerif.Lemmas.C07Lemmas

/-! C07 - property theorems (declared with their full name `C07.<name>`; helper lemmas are in Lemmas/C07Lemmas).

  Model (Model/C07.lean): `checkUsage fixed d` mirrors the usage check of `EntityTemplate.__init__`
  (`fixed = true`: the tree with fixes/C07-*.patch, `fixed = false`: the tree before), `accept` adds the front-end
  rules, `emit d` lists the driver units the back end prints (process per sequential context, concurrent block
  per concurrent context, the always block of a sequential context as a separate concurrent block, one port map
  per instance), `drivers e r` / `users e r` count the units that drive / reference root `r`.

  * `C07.checkUsage_ok_iff`          accepted <-> no input port written / driven, no two distinct write occurrences of
                                     one root by different writers (or involving an instance output), no variable /
                                     temporary used by two different contexts - for ALL designs (patched tree;
                                     `C07.checkUsage_ok_iff_gen` is the same statement for both mirrors).
  * `C07.accepted_unique_driver`     (fixed tree) accepted -> every root has <= 1 driver unit in the emitted architecture.
  * `C07.accepted_unique_driver_fails_at`  the same statement is FALSE for the mirror of the unpatched tree (witness:
                                     a signal assigned in `with cohdl.always:` and in the body of the same context).
  * `C07.variables_stay_in_process`  (fixed tree) accepted -> a variable is referenced by <= 1 unit, and that unit is the
                                     process of a sequential context (never a concurrent block, always block, port map).
-/
open CohdlVerif.C07

namespace CohdlVerif.C07

/-- every write occurrence `(root, writer)`: accesses of the contexts, then instance outputs -/
def writeEvents (fixed : Bool) (d : Design) : List (Nat × Owner) :=
  wEv (ctxsEvents fixed 0 d.ctxs) ++ (instOuts 0 d.insts).map (fun e => (e.2, e.1))

/-- every occurrence `(root, user)` of a variable / temporary in a context -/
def useEvents (fixed : Bool) (d : Design) : List (Nat × Owner) :=
  uEv d.kinds (ctxsEvents fixed 0 d.ctxs)

/-- SPEC (the first sentence of the property on the abstract design) -/
structure UsageOk (fixed : Bool) (d : Design) : Prop where
  /-- no input port is written by a context -/
  noInputWritten : ∀ e ∈ ctxsEvents fixed 0 d.ctxs, e.2.write = true → kindOf d.kinds e.2.root ≠ .portIn
  /-- no input port is the actual of an instance output (checked by the patched tree only) -/
  noInputDriven : fixed = true → ∀ e ∈ instOuts 0 d.insts, kindOf d.kinds e.2 ≠ .portIn
  /-- no root (whatever slice / element) is written from two contexts / instance outputs -/
  singleWriter : (writeEvents fixed d).Pairwise Compatible
  /-- no variable / temporary is used by two contexts -/
  singleUser : (useEvents fixed d).Pairwise (fun a b => a.1 = b.1 → a.2 = b.2)

end CohdlVerif.C07

theorem CohdlVerif.C07.mem_uEv_owner (kinds : List Kind) (evs : List (Owner × Access)) (h : ∀ e ∈ evs, e.1.isInst = false) :
    ∀ x ∈ uEv kinds evs, x.2.isInst = false := by
  intro x hx
  obtain ⟨a, ha, _⟩ := mem_uEv.1 hx
  exact h _ ha

theorem CohdlVerif.C07.checkUsage_eq (fixed : Bool) (d : Design) :
    checkUsage fixed d =
      (!inputBad d.kinds (ctxsEvents fixed 0 d.ctxs) && (ownFold [] (useEvents fixed d)).isSome
        && !(fixed && instInputBad d.kinds (instOuts 0 d.insts)) && (ownFold [] (writeEvents fixed d)).isSome) := by
  rw [checkUsage, checkEvents_eq _ _ (ctxsEvents_owner fixed d.ctxs 0), writeEvents, useEvents, ownFold_append]
  cases inputBad d.kinds (ctxsEvents fixed 0 d.ctxs)
  case true => rfl
  case false =>
    cases ownFold [] (wEv (ctxsEvents fixed 0 d.ctxs)) with
    | none => simp
    | some w =>
      cases ownFold [] (uEv d.kinds (ctxsEvents fixed 0 d.ctxs)) with
      | none => rfl
      | some u =>
        simp only [checkInstOuts_eq fixed d.kinds _ _ (instOuts_owner d.insts 0)]
        cases fixed && instInputBad d.kinds (instOuts 0 d.insts) <;> rfl

theorem C07.checkUsage_ok_iff_gen (fixed : Bool) (d : Design) : checkUsage fixed d = true ↔ UsageOk fixed d := by
  simp only [checkUsage_eq, Bool.and_eq_true, Bool.not_eq_true', ownFold_nil_isSome, inputBad_eq_false,
    instInputBad_eq_false]
  have hown := mem_uEv_owner d.kinds _ (ctxsEvents_owner fixed d.ctxs 0)
  constructor
  · rintro ⟨⟨⟨h1, h4⟩, h2⟩, h3⟩
    exact ⟨h1, h2, h3, h4.imp fun hab hk => (hab hk).1⟩
  · rintro ⟨h1, h2, h3, h4⟩
    exact ⟨⟨⟨h1, h4.imp_of_mem fun ha hb hab hk => ⟨hab hk, hown _ ha, hown _ hb⟩⟩, h2⟩, h3⟩

/-- the usage check of the patched tree accepts a design exactly when the property's first sentence allows it -/
theorem C07.checkUsage_ok_iff (d : Design) : checkUsage true d = true ↔ UsageOk true d :=
  C07.checkUsage_ok_iff_gen true d

-- non-vacuity: a design with two contexts, an instance and a variable is accepted ...
example : checkUsage true ⟨[.signal, .portIn, .portOut, .variable],
    [⟨.seq, [⟨1, .read, false⟩, ⟨0, .write, false⟩, ⟨3, .write, false⟩, ⟨3, .read, false⟩]⟩, ⟨.conc, [⟨0, .read, false⟩]⟩],
    [⟨[0], [2]⟩]⟩ = true := by decide +kernel
-- ... and each clause rejects: two contexts writing slices of root 0; an input port written; a variable in two
-- contexts; an instance output onto a signal written by a context
example : checkUsage true ⟨[.signal], [⟨.seq, [⟨0, .write, false⟩]⟩, ⟨.conc, [⟨0, .write, false⟩]⟩], []⟩ = false := by decide +kernel
example : checkUsage true ⟨[.portIn], [⟨.seq, [⟨0, .write, false⟩]⟩], []⟩ = false := by decide +kernel
example : checkUsage true ⟨[.variable], [⟨.seq, [⟨0, .write, false⟩]⟩, ⟨.seq, [⟨0, .read, false⟩]⟩], []⟩ = false := by decide +kernel
example : checkUsage true ⟨[.signal], [⟨.seq, [⟨0, .write, false⟩]⟩], [⟨[], [0]⟩]⟩ = false := by decide +kernel

/-! ### consequence: unique drivers in the emitted architecture -/

theorem C07.usageOk_unique_driver (d : Design) (h : UsageOk true d) (r : Nat) : drivers (emit d) r ≤ 1 := by
  refine countP_emit_le_one d _ (writeEvents true d) r (h.singleWriter.imp fun hab hk => (hab hk).1) ?_
  intro w hw hr
  have hr : r ∈ w.targets := List.contains_iff_mem.mp hr
  rcases List.mem_append.mp hw with hw | hw
  · obtain ⟨k, c, o, accs, _, _, rfl, hev, _⟩ := mem_emitCtxs _ _ w hw
    obtain ⟨a, ha, hwr, hroot⟩ := mem_writesOf.1 hr
    exact List.mem_append_left _ (mem_wEv.2 ⟨a, hev a ha, hwr, hroot⟩)
  · obtain ⟨k, b, _, _, rfl, hev⟩ := mem_emitInsts _ _ w hw
    exact List.mem_append_right _ (List.mem_map.mpr ⟨(.inst k, r), hev r hr, rfl⟩)

/-- FULL STATEMENT (patched tree): an accepted design has at most one driver unit (process / concurrent block /
    always block / instance port map) per root in the emitted architecture -/
theorem C07.accepted_unique_driver (d : Design) (h : checkUsage true d = true) :
    ∀ r, drivers (emit d) r ≤ 1 :=
  fun r => C07.usageOk_unique_driver d ((C07.checkUsage_ok_iff d).1 h) r

-- non-vacuity: an accepted design in which always block, body, a concurrent context and an instance each drive a root
example : checkUsage true ⟨[.signal, .signal, .signal, .signal, .portIn],
    [⟨.seq, [⟨0, .write, true⟩, ⟨1, .write, false⟩, ⟨0, .read, false⟩]⟩, ⟨.conc, [⟨2, .write, false⟩]⟩], [⟨[4], [3]⟩]⟩ = true := by decide +kernel

/-- the witness of the defect: root 0 is assigned in `with cohdl.always:` and in the body of the same
    sequential context (design_sketches/probes/c07_always_double_driver.py) -/
def CohdlVerif.C07.alwaysWitness : Design :=
  ⟨[.signal], [⟨.seq, [⟨0, .write, true⟩, ⟨0, .write, false⟩]⟩], []⟩

/-- the statement `accepted -> unique driver` is FALSE for the mirror of the tree before
    fixes/C07-always-block-separate-driver.patch: the witness is accepted (front-end rules and usage check) and
    root 0 has two driver units -/
theorem C07.accepted_unique_driver_fails_at :
    accept false alwaysWitness = true ∧ drivers (emit alwaysWitness) 0 = 2 ∧ accept true alwaysWitness = false := by
  decide +kernel

/-- what does hold on the unpatched tree: the design is accepted by the patched check as well (i.e. no root is
    written both in the always block and in the body of one context, no variable used in both, no input port
    driven by an instance) -> unique drivers -/
theorem C07.accepted_unique_driver_partial (d : Design) (_h : checkUsage false d = true)
    (hsep : checkUsage true d = true) : ∀ r, drivers (emit d) r ≤ 1 :=
  C07.accepted_unique_driver d hsep

example : checkUsage false ⟨[.signal, .signal], [⟨.seq, [⟨0, .write, true⟩, ⟨1, .write, false⟩]⟩], []⟩ = true
    ∧ checkUsage true ⟨[.signal, .signal], [⟨.seq, [⟨0, .write, true⟩, ⟨1, .write, false⟩]⟩], []⟩ = true := by decide +kernel

/-! ### variables never leave their process -/

theorem C07.variables_stay_in_process (d : Design) (h : accept true d = true) (r : Nat)
    (hr : kindOf d.kinds r = .variable) :
    users (emit d) r ≤ 1
    ∧ (∀ u ∈ emit d, r ∈ u.refs → ∃ i, u.owner = .ctx i)
    ∧ (∀ c ∈ d.ctxs, c.kind = .conc → ∀ a ∈ c.accs, a.root ≠ r) := by
  obtain ⟨hf, hc⟩ := Bool.and_eq_true_iff.mp h
  have hok := (C07.checkUsage_ok_iff d).1 hc
  have hproc : ∀ u ∈ emit d, r ∈ u.refs → ∃ i, u.owner = .ctx i := by
    intro u hu hru
    rcases List.mem_append.mp hu with hu | hu
    · obtain ⟨k, c, o, accs, _, hcm, rfl, _, ⟨rfl, rfl⟩ | ⟨rfl, rfl⟩⟩ := mem_emitCtxs _ _ u hu
      · obtain ⟨a, ha, hroot⟩ := List.mem_map.mp hru
        exact absurd (hroot ▸ hr) (ctxFrontend_always_novar (frontend_ctx hf c hcm) a ha)
      · exact ⟨k, rfl⟩
    · obtain ⟨k, b, _, hb, rfl, _⟩ := mem_emitInsts _ _ u hu
      exact absurd hr (frontend_inst_novar hf b hb r hru)
  refine ⟨?_, hproc, ?_⟩
  · refine countP_emit_le_one d _ (useEvents true d) r hok.singleUser ?_
    intro w hw hrw
    have hrw : r ∈ w.refs := List.contains_iff_mem.mp hrw
    obtain ⟨i, hi⟩ := hproc w hw hrw
    rcases List.mem_append.mp hw with hw | hw
    · obtain ⟨k, c, o, accs, _, _, rfl, hev, _⟩ := mem_emitCtxs _ _ w hw
      obtain ⟨a, ha, hroot⟩ := List.mem_map.mp hrw
      exact mem_uEv.2 ⟨a, hev a ha, by rw [hroot, hr]; rfl, hroot⟩
    · have hinst := (emitInsts_idx _ _ w hw).1
      rw [hi] at hinst
      cases hinst
  · intro c hcm hkind a ha hroot
    exact ctxFrontend_conc_novar (frontend_ctx hf c hcm) hkind a ha (hroot ▸ hr)

-- non-vacuity: an accepted design with a variable written and read in one sequential context
example : accept true ⟨[.variable, .portIn, .portOut],
    [⟨.seq, [⟨1, .read, false⟩, ⟨0, .write, false⟩, ⟨0, .read, false⟩, ⟨2, .write, false⟩]⟩], []⟩ = true := by decide +kernel
-- and the rejected placements: variable read in an always block, in a concurrent context, in two contexts, as actual
example : accept true ⟨[.variable, .portOut], [⟨.seq, [⟨0, .read, true⟩, ⟨1, .write, true⟩]⟩], []⟩ = false := by decide +kernel
example : accept false ⟨[.variable, .portOut], [⟨.seq, [⟨0, .read, true⟩, ⟨1, .write, true⟩]⟩], []⟩ = true := by decide +kernel
example : accept true ⟨[.variable, .portOut], [⟨.conc, [⟨0, .read, false⟩, ⟨1, .write, false⟩]⟩], []⟩ = false := by decide +kernel
example : accept true ⟨[.variable, .portOut], [⟨.seq, [⟨0, .write, false⟩]⟩], [⟨[0], [1]⟩]⟩ = false := by decide +kernel

/-! ### push assignments are writes -/

/-- `^=` / `.push` (AccessFlags.PUSH) count as drivers: in an accepted design a root pushed by one context (or always
    block) is written or pushed by no other one -/
theorem C07.push_counts_as_write (d : Design) (h : checkUsage true d = true)
    (o₁ o₂ : Owner) (a₁ a₂ : Access)
    (h₁ : (o₁, a₁) ∈ ctxsEvents true 0 d.ctxs) (h₂ : (o₂, a₂) ∈ ctxsEvents true 0 d.ctxs)
    (hp : a₁.acc = .push) (hw : a₂.write = true) (hr : a₁.root = a₂.root) : o₁ = o₂ := by
  have hok := (C07.checkUsage_ok_iff d).1 h
  have hsame := pairwise_same_owner (hok.singleWriter.imp (fun hab hk => (hab hk).1))
  have hw₁ : a₁.write = true := by rw [Access.write, hp]; rfl
  have m₁ : (a₁.root, o₁) ∈ writeEvents true d := List.mem_append_left _ (mem_wEv.2 ⟨a₁, h₁, hw₁, rfl⟩)
  have m₂ : (a₂.root, o₂) ∈ writeEvents true d := List.mem_append_left _ (mem_wEv.2 ⟨a₂, h₂, hw, rfl⟩)
  exact hsame _ m₁ _ m₂ hr

-- a root pushed in one sequential context and assigned / pushed in another context, or driven by an instance, is rejected;
-- a push inside one context together with the WRITE of `reset_pushed()` of the same context is accepted
example : checkUsage true ⟨[.signal], [⟨.seq, [⟨0, .push, false⟩]⟩, ⟨.seq, [⟨0, .write, false⟩]⟩], []⟩ = false := by decide +kernel
example : checkUsage true ⟨[.signal], [⟨.seq, [⟨0, .push, false⟩]⟩, ⟨.seq, [⟨0, .push, false⟩]⟩], []⟩ = false := by decide +kernel
example : checkUsage true ⟨[.signal], [⟨.seq, [⟨0, .push, false⟩]⟩, ⟨.conc, [⟨0, .write, false⟩]⟩], []⟩ = false := by decide +kernel
example : checkUsage true ⟨[.signal], [⟨.seq, [⟨0, .push, false⟩]⟩], [⟨[], [0]⟩]⟩ = false := by decide +kernel
example : checkUsage true ⟨[.portIn], [⟨.seq, [⟨0, .push, false⟩]⟩], []⟩ = false := by decide +kernel
example : accept true ⟨[.signal], [⟨.seq, [⟨0, .write, false⟩, ⟨0, .push, false⟩]⟩], []⟩ = true := by decide +kernel
example : accept true ⟨[.signal], [⟨.conc, [⟨0, .push, false⟩]⟩], []⟩ = false := by decide +kernel

-- several outputs of ONE instance on one root: the instance loop is strict (`if sig_root in written_in: raise`), so the
-- second output is rejected whatever parts are connected (overlapping parts MUST be rejected; disjoint parts are
-- over-rejected) - also after a context wrote the root, and for two instances
example : checkUsage true ⟨[.signal, .portIn], [], [⟨[1], [0, 0]⟩]⟩ = false := by decide +kernel
example : checkUsage true ⟨[.signal, .portIn], [], [⟨[1], [0]⟩, ⟨[1], [0]⟩]⟩ = false := by decide +kernel
example : checkUsage true ⟨[.signal, .signal, .portIn], [], [⟨[2], [0, 1]⟩]⟩ = true := by decide +kernel

-- inline VHDL: a write-formatted object of an inline statement or expression is a WRITE access (second driver rejected,
-- input port rejected, variable confined to its context); in an inline EXPRESSION the result also feeds a sink (root 1)
example : checkUsage true ⟨[.signal, .portOut], [⟨.seq, [⟨0, .write, false⟩]⟩, ⟨.seq, [⟨0, .write, false⟩, ⟨1, .write, false⟩]⟩], []⟩ = false := by decide +kernel
example : checkUsage true ⟨[.portIn, .portOut], [⟨.conc, [⟨0, .write, false⟩, ⟨1, .write, false⟩]⟩], []⟩ = false := by decide +kernel
example : accept true ⟨[.variable, .portOut], [⟨.seq, [⟨0, .write, true⟩, ⟨1, .write, true⟩]⟩], []⟩ = false := by decide +kernel

-- explicit Temporary defined by inline code: in the always block it is rejected by the patched tree (it would be declared
-- as a process variable but assigned outside the process); as port actual it cannot also be used in a process body
example : accept true ⟨[.temporary, .portIn], [⟨.seq, [⟨1, .read, true⟩, ⟨0, .write, true⟩]⟩], []⟩ = false := by decide +kernel
example : accept false ⟨[.temporary, .portIn], [⟨.seq, [⟨1, .read, true⟩, ⟨0, .write, true⟩]⟩], []⟩ = true := by decide +kernel
example : accept true ⟨[.temporary, .portIn, .portOut], [⟨.seq, [⟨1, .read, false⟩, ⟨0, .write, false⟩]⟩], [⟨[0], [2]⟩]⟩ = false := by decide +kernel
example : accept true ⟨[.temporary, .portIn, .portOut], [⟨.seq, [⟨1, .read, false⟩, ⟨0, .write, false⟩, ⟨0, .read, false⟩, ⟨2, .write, false⟩]⟩], []⟩ = true := by decide +kernel
