import CohdlVerif.Lemmas.C19ResizeS
import CohdlVerif.Lemmas.C19ResizeU
import CohdlVerif.Lemmas.C19Eq

/-!
  C19 - property theorems about the mirror `Model/C19.lean` of `cohdl/std/_fixed.py` (the five fixes of
  fixes/C19-*.patch are committed in /repo; the mirror is of that code).  A fixed-point value of format `[l:r]`
  with raw value `v` is the number `v * 2^r`; numbers are compared as integers scaled by a common power of two.

  `resizeS / resizeU` mirror `resize_fn`, `resizeS1 / resizeU1` mirror `_resize_overlapping`, `resizeSCore /
  resizeUCore` its case analysis below the same-format shortcut.  `specResizeS / specResizeU` is the
  specification: exact `v * 2^(r-r')`, truncated toward minus infinity or rounded to nearest-even, then
  wrapped modulo the target range or clamped to its bounds.

  `C19.resize_spec` / `C19.resize_spec_unsigned` are the FULL statements (all formats, styles, raw values);
  the theorems `C19.resize_<branch>_spec` state the same for one branch of the code each.
-/
open CohdlVerif.C19

/-! ## `+ - *` -/

/-- SFixed `*`: result format `[l1+l2+1 : r1+r2]`, raw value the exact product - no error, for all formats and values -/
theorem C19.mul_exact (l1 r1 v1 l2 r2 v2 : Int) (h1 : r1 ≤ l1) (h2 : r2 ≤ l2)
    (hv1 : inRangeS (l1 - r1 + 1) v1) (hv2 : inRangeS (l2 - r2 + 1) v2) :
    arithS .mul l1 r1 v1 l2 r2 v2 = .ok ⟨l1 + l2 + 1, (specArith .mul r1 v1 r2 v2).2, (specArith .mul r1 v1 r2 v2).1⟩ :=
  arithS_exact .mul h1 h2 hv1 hv2

example : arithS .mul 1 (-1) (-4) 0 (-2) 3 = .ok ⟨2, -3, -12⟩ := rfl

/-- UFixed `*` -/
theorem C19.mul_exact_unsigned (l1 r1 v1 l2 r2 v2 : Int) (h1 : r1 ≤ l1) (h2 : r2 ≤ l2)
    (hv1 : inRangeU (l1 - r1 + 1) v1) (hv2 : inRangeU (l2 - r2 + 1) v2) :
    arithU .mul l1 r1 v1 l2 r2 v2 = .ok ⟨l1 + l2 + 1, (specArith .mul r1 v1 r2 v2).2, (specArith .mul r1 v1 r2 v2).1⟩ :=
  arithU_exact .mul h1 h2 hv1 hv2

/-- SFixed `+`: result format `[max l + 1 : min r]`, raw value = exact sum in units of `2^(min r)` -/
theorem C19.add_exact (l1 r1 v1 l2 r2 v2 : Int) (h1 : r1 ≤ l1) (h2 : r2 ≤ l2)
    (hv1 : inRangeS (l1 - r1 + 1) v1) (hv2 : inRangeS (l2 - r2 + 1) v2) :
    arithS .add l1 r1 v1 l2 r2 v2 = .ok ⟨max l1 l2 + 1, (specArith .add r1 v1 r2 v2).2, (specArith .add r1 v1 r2 v2).1⟩ :=
  arithS_exact .add h1 h2 hv1 hv2

example : arithS .add 1 (-1) (-4) 0 (-2) 3 = .ok ⟨2, -2, -5⟩ := rfl

/-- UFixed `+` -/
theorem C19.add_exact_unsigned (l1 r1 v1 l2 r2 v2 : Int) (h1 : r1 ≤ l1) (h2 : r2 ≤ l2)
    (hv1 : inRangeU (l1 - r1 + 1) v1) (hv2 : inRangeU (l2 - r2 + 1) v2) :
    arithU .add l1 r1 v1 l2 r2 v2 = .ok ⟨max l1 l2 + 1, (specArith .add r1 v1 r2 v2).2, (specArith .add r1 v1 r2 v2).1⟩ :=
  arithU_exact .add h1 h2 hv1 hv2

/-- SFixed `-`: exact difference -/
theorem C19.sub_exact (l1 r1 v1 l2 r2 v2 : Int) (h1 : r1 ≤ l1) (h2 : r2 ≤ l2)
    (hv1 : inRangeS (l1 - r1 + 1) v1) (hv2 : inRangeS (l2 - r2 + 1) v2) :
    arithS .sub l1 r1 v1 l2 r2 v2 = .ok ⟨max l1 l2 + 1, (specArith .sub r1 v1 r2 v2).2, (specArith .sub r1 v1 r2 v2).1⟩ :=
  arithS_exact .sub h1 h2 hv1 hv2

example : arithS .sub 0 0 (-1) 0 0 0 = .ok ⟨1, 0, -1⟩ := rfl

/-- UFixed `-`: the exact difference modulo the range `2^width` of the result format -/
theorem C19.sub_exact_unsigned (l1 r1 v1 l2 r2 v2 : Int) (h1 : r1 ≤ l1) (h2 : r2 ≤ l2)
    (hv1 : inRangeU (l1 - r1 + 1) v1) (hv2 : inRangeU (l2 - r2 + 1) v2) :
    arithU .sub l1 r1 v1 l2 r2 v2 =
      .ok ⟨max l1 l2 + 1, (specArith .sub r1 v1 r2 v2).2,
           (specArith .sub r1 v1 r2 v2).1 % p2 (max l1 l2 + 1 - (specArith .sub r1 v1 r2 v2).2 + 1)⟩ :=
  arithU_exact .sub h1 h2 hv1 hv2

example : arithU .sub 0 0 0 0 (-1) 1 = .ok ⟨1, -1, 7⟩ := rfl

/-! ## resize, SFixed: the branches of `_resize_overlapping` (formats overlap: `r' ≤ l`, `r ≤ l'`) -/

/-- `l ≤ l'`, `r' ≤ r` (the target covers the source): no bit is dropped, every style -/
theorem C19.resize_extend_spec (l r v l' r' : Int) (rs : Round) (os : Ovf) (hlr : r ≤ l)
    (hv : inRangeS (l - r + 1) v) (hl : l ≤ l') (hr : r' ≤ r) :
    resizeSCore l r v l' r' rs os = .ok (specResizeS r v l' r' rs os) :=
  resizeSCore_spec hv (by omega)

example : resizeSCore 0 (-1) (-2) 2 (-2) .round .saturate = .ok (-4) := rfl

/-- left overflow, no right cut, WRAP: the value modulo the target range -/
theorem C19.resize_overflow_wrap_spec (l r v l' r' : Int) (rs : Round) (hv : inRangeS (l - r + 1) v)
    (hl : l' < l) (hr : r' ≤ r) (hov : r ≤ l') :
    resizeSCore l r v l' r' rs .wrap = .ok (specResizeS r v l' r' rs .wrap) :=
  resizeSCore_spec hv (fmt_of_ovf hl hr hov)

example : resizeSCore 2 0 3 1 (-1) .truncate .wrap = .ok (-2) := rfl

/-- left overflow, no right cut, SATURATE: clamped to the bounds of the target -/
theorem C19.resize_overflow_saturate_spec (l r v l' r' : Int) (rs : Round) (hv : inRangeS (l - r + 1) v)
    (hl : l' < l) (hr : r' ≤ r) (hov : r ≤ l') :
    resizeSCore l r v l' r' rs .saturate = .ok (specResizeS r v l' r' rs .saturate) :=
  resizeSCore_spec hv (fmt_of_ovf hl hr hov)

example : resizeSCore 2 0 3 1 (-1) .truncate .saturate = .ok 3 := rfl

/-- right cut without left overflow, TRUNCATE: floor division by `2^(r'-r)`, every overflow style -/
theorem C19.resize_truncate_spec (l r v l' r' : Int) (os : Ovf) (hv : inRangeS (l - r + 1) v)
    (hl : l ≤ l') (hr : r < r') (ht : r' ≤ l) :
    resizeSCore l r v l' r' .truncate os = .ok (specResizeS r v l' r' .truncate os) :=
  resizeSCore_spec hv (fmt_of_cut hl hr ht)

example : resizeSCore 1 (-2) (-3) 1 (-1) .truncate .wrap = .ok (-2) := rfl

/-- right cut and left overflow, TRUNCATE / WRAP -/
theorem C19.resize_overflow_truncate_wrap_spec (l r v l' r' : Int) (hv : inRangeS (l - r + 1) v)
    (hl : l' < l) (hr : r < r') (ht : r' ≤ l') :
    resizeSCore l r v l' r' .truncate .wrap = .ok (specResizeS r v l' r' .truncate .wrap) :=
  resizeSCore_spec hv (fmt_of_ovf_cut hl hr ht)

/-- right cut and left overflow, TRUNCATE / SATURATE -/
theorem C19.resize_overflow_truncate_saturate_spec (l r v l' r' : Int) (hv : inRangeS (l - r + 1) v)
    (hl : l' < l) (hr : r < r') (ht : r' ≤ l') :
    resizeSCore l r v l' r' .truncate .saturate = .ok (specResizeS r v l' r' .truncate .saturate) :=
  resizeSCore_spec hv (fmt_of_ovf_cut hl hr ht)

example : resizeSCore 2 (-2) (-13) 0 (-1) .truncate .saturate = .ok (-2) := rfl

/-- right cut without left overflow, ROUND (nearest, ties to even), every overflow style - including the
    carry of the rounding increment out of the target when `l = l'` (wraps / saturates as selected) -/
theorem C19.resize_round_spec (l r v l' r' : Int) (os : Ovf) (hv : inRangeS (l - r + 1) v)
    (hl : l ≤ l') (hr : r < r') (ht : r' ≤ l) :
    resizeSCore l r v l' r' .round os = .ok (specResizeS r v l' r' .round os) :=
  resizeSCore_spec hv (fmt_of_cut hl hr ht)

example : resizeSCore 0 (-2) 3 0 (-1) .round .saturate = .ok 1 := rfl
example : resizeSCore 0 (-2) 3 0 (-1) .round .wrap = .ok (-2) := rfl

/-- right cut and left overflow, ROUND / WRAP -/
theorem C19.resize_overflow_round_wrap_spec (l r v l' r' : Int) (hv : inRangeS (l - r + 1) v)
    (hl : l' < l) (hr : r < r') (ht : r' ≤ l') :
    resizeSCore l r v l' r' .round .wrap = .ok (specResizeS r v l' r' .round .wrap) :=
  resizeSCore_spec hv (fmt_of_ovf_cut hl hr ht)

/-- right cut and left overflow, ROUND / SATURATE -/
theorem C19.resize_overflow_round_saturate_spec (l r v l' r' : Int) (hv : inRangeS (l - r + 1) v)
    (hl : l' < l) (hr : r < r') (ht : r' ≤ l') :
    resizeSCore l r v l' r' .round .saturate = .ok (specResizeS r v l' r' .round .saturate) :=
  resizeSCore_spec hv (fmt_of_ovf_cut hl hr ht)

example : resizeSCore 1 (-2) (-1) 0 (-1) .round .saturate = .ok 0 := rfl

/-- `_resize_overlapping`: every pair of overlapping formats, every style, every raw value -/
theorem C19.resize_overlapping_spec (l r v l' r' : Int) (rs : Round) (os : Ovf) (hlr : r ≤ l) (hlr' : r' ≤ l')
    (hv : inRangeS (l - r + 1) v) (ho1 : r' ≤ l) (ho2 : r ≤ l') :
    resizeS1 l r v l' r' rs os = .ok (specResizeS r v l' r' rs os) :=
  resizeS1_spec hlr hlr' hv ho1 ho2

/-- formats without a common bit position: the source is extended exactly (constructor from another format),
    then `_resize_overlapping` applies - the result is the spec's -/
theorem C19.resize_disjoint_spec (l r v l' r' : Int) (rs : Round) (os : Ovf) (hlr : r ≤ l) (hlr' : r' ≤ l')
    (hv : inRangeS (l - r + 1) v) (_hd : l < r' ∨ l' < r) :
    resizeS l r v l' r' rs os = .ok (specResizeS r v l' r' rs os) :=
  resizeS_spec hlr hlr' hv

example : resizeS 1 0 (-1) (-1) (-1) .round .saturate = .ok (-1) := rfl
example : resizeS (-1) (-1) (-1) 0 0 .round .wrap = .ok 0 := rfl

/-- C19, resize, FULL STATEMENT (SFixed): for all source and target formats, both round styles, both overflow
    styles and every raw value of the source format, `resize_fn` returns without error the raw value of the
    specification -/
theorem C19.resize_spec (l r v l' r' : Int) (rs : Round) (os : Ovf) (hlr : r ≤ l) (hlr' : r' ≤ l')
    (hv : inRangeS (l - r + 1) v) :
    resizeS l r v l' r' rs os = .ok (specResizeS r v l' r' rs os) :=
  resizeS_spec hlr hlr' hv

example : resizeS (-1) (-3) 3 (-1) (-2) .round .saturate = .ok 1 := rfl

/-! ## resize, UFixed -/

theorem C19.resize_extend_spec_unsigned (l r v l' r' : Int) (rs : Round) (os : Ovf) (hlr : r ≤ l)
    (hv : inRangeU (l - r + 1) v) (hl : l ≤ l') (hr : r' ≤ r) :
    resizeUCore l r v l' r' rs os = .ok (specResizeU r v l' r' rs os) :=
  resizeUCore_spec hv (by omega)

theorem C19.resize_overflow_wrap_spec_unsigned (l r v l' r' : Int) (rs : Round) (hv : inRangeU (l - r + 1) v)
    (hl : l' < l) (hr : r' ≤ r) (hov : r ≤ l') :
    resizeUCore l r v l' r' rs .wrap = .ok (specResizeU r v l' r' rs .wrap) :=
  resizeUCore_spec hv (fmt_of_ovf hl hr hov)

theorem C19.resize_overflow_saturate_spec_unsigned (l r v l' r' : Int) (rs : Round) (hv : inRangeU (l - r + 1) v)
    (hl : l' < l) (hr : r' ≤ r) (hov : r ≤ l') :
    resizeUCore l r v l' r' rs .saturate = .ok (specResizeU r v l' r' rs .saturate) :=
  resizeUCore_spec hv (fmt_of_ovf hl hr hov)

example : resizeUCore 2 0 5 1 (-1) .truncate .saturate = .ok 7 := rfl

theorem C19.resize_truncate_spec_unsigned (l r v l' r' : Int) (os : Ovf) (hv : inRangeU (l - r + 1) v)
    (hl : l ≤ l') (hr : r < r') (ht : r' ≤ l) :
    resizeUCore l r v l' r' .truncate os = .ok (specResizeU r v l' r' .truncate os) :=
  resizeUCore_spec hv (fmt_of_cut hl hr ht)

theorem C19.resize_overflow_truncate_wrap_spec_unsigned (l r v l' r' : Int) (hv : inRangeU (l - r + 1) v)
    (hl : l' < l) (hr : r < r') (ht : r' ≤ l') :
    resizeUCore l r v l' r' .truncate .wrap = .ok (specResizeU r v l' r' .truncate .wrap) :=
  resizeUCore_spec hv (fmt_of_ovf_cut hl hr ht)

theorem C19.resize_overflow_truncate_saturate_spec_unsigned (l r v l' r' : Int) (hv : inRangeU (l - r + 1) v)
    (hl : l' < l) (hr : r < r') (ht : r' ≤ l') :
    resizeUCore l r v l' r' .truncate .saturate = .ok (specResizeU r v l' r' .truncate .saturate) :=
  resizeUCore_spec hv (fmt_of_ovf_cut hl hr ht)

theorem C19.resize_round_spec_unsigned (l r v l' r' : Int) (os : Ovf) (hv : inRangeU (l - r + 1) v)
    (hl : l ≤ l') (hr : r < r') (ht : r' ≤ l) :
    resizeUCore l r v l' r' .round os = .ok (specResizeU r v l' r' .round os) :=
  resizeUCore_spec hv (fmt_of_cut hl hr ht)

example : resizeUCore 0 (-2) 7 0 (-1) .round .saturate = .ok 3 := rfl

theorem C19.resize_overflow_round_wrap_spec_unsigned (l r v l' r' : Int) (hv : inRangeU (l - r + 1) v)
    (hl : l' < l) (hr : r < r') (ht : r' ≤ l') :
    resizeUCore l r v l' r' .round .wrap = .ok (specResizeU r v l' r' .round .wrap) :=
  resizeUCore_spec hv (fmt_of_ovf_cut hl hr ht)

theorem C19.resize_overflow_round_saturate_spec_unsigned (l r v l' r' : Int) (hv : inRangeU (l - r + 1) v)
    (hl : l' < l) (hr : r < r') (ht : r' ≤ l') :
    resizeUCore l r v l' r' .round .saturate = .ok (specResizeU r v l' r' .round .saturate) :=
  resizeUCore_spec hv (fmt_of_ovf_cut hl hr ht)

example : resizeUCore 1 (-2) 3 0 (-1) .round .saturate = .ok 2 := rfl

theorem C19.resize_overlapping_spec_unsigned (l r v l' r' : Int) (rs : Round) (os : Ovf) (hlr : r ≤ l)
    (hlr' : r' ≤ l') (hv : inRangeU (l - r + 1) v) (ho1 : r' ≤ l) (ho2 : r ≤ l') :
    resizeU1 l r v l' r' rs os = .ok (specResizeU r v l' r' rs os) :=
  resizeU1_spec hlr hlr' hv ho1 ho2

/-- C19, resize, FULL STATEMENT (UFixed) -/
theorem C19.resize_spec_unsigned (l r v l' r' : Int) (rs : Round) (os : Ovf) (hlr : r ≤ l) (hlr' : r' ≤ l')
    (hv : inRangeU (l - r + 1) v) :
    resizeU l r v l' r' rs os = .ok (specResizeU r v l' r' rs os) :=
  resizeU_spec hlr hlr' hv

example : resizeU (-2) (-3) 3 (-2) (-2) .round .saturate = .ok 1 := rfl
example : resizeU 0 0 1 (-2) (-2) .truncate .saturate = .ok 1 := rfl

/-! ## constructors -/

/-- constructor from another format: accepted exactly when the target covers the source (a type-level
    decision), and then the represented number is preserved (`raw' * 2^tr = v * 2^sr`) -/
theorem C19.ctor_preserves (tl tr sl sr v : Int) (hs : sr ≤ sl) (hv : inRangeS (sl - sr + 1) v) :
    (sl ≤ tl ∧ tr ≤ sr → ctorFixedS tl tr sl sr v = .ok (v * p2 (sr - tr))) ∧
    (¬ (sl ≤ tl ∧ tr ≤ sr) → ∃ e, ctorFixedS tl tr sl sr v = .error e) :=
  ⟨fun h => ctorFixedS_covers hs hv h.1 h.2, ctorFixedS_rejects⟩

example : ctorFixedS 1 (-2) 1 (-1) (-3) = .ok (-6) := rfl

theorem C19.ctor_preserves_unsigned (tl tr sl sr v : Int) (hs : sr ≤ sl) (hv : inRangeU (sl - sr + 1) v)
    (hl : sl ≤ tl) (hr : tr ≤ sr) : ctorFixedU tl tr sl sr v = .ok (v * p2 (sr - tr)) :=
  ctorFixedU_covers hs hv hl hr

/-- constructor from `Signed[sw]`: accepted when `sw` bits plus `-r` zeros fit, value preserved (`raw * 2^r = v`) -/
theorem C19.ctor_preserves_signed (l r sw v : Int) (hlr : r ≤ l) (hsw : 1 ≤ sw) (hv : inRangeS sw v)
    (hr : r ≤ 0) (hfit : sw - r ≤ l - r + 1) : ctorSignedS l r sw v = .ok (v * p2 (-r)) :=
  ctorSignedS_ok hlr hsw hv hr hfit

example : ctorSignedS 2 (-1) 2 (-2) = .ok (-4) := rfl

/-- SFixed from `Unsigned[sw]` (needs one more bit for the sign) and UFixed from `Unsigned[sw]` -/
theorem C19.ctor_preserves_from_unsigned (l r sw v : Int) (hsw : 1 ≤ sw) (hv : inRangeU sw v) (hr : r ≤ 0) :
    (sw - r ≤ l - r → ctorUnsignedS l r sw v = .ok (v * p2 (-r))) ∧
    (sw - r ≤ l - r + 1 → ctorUnsignedU l r sw v = .ok (v * p2 (-r))) :=
  ⟨ctorUnsignedS_ok hsw hv hr, ctorUnsignedU_ok hsw hv hr⟩

example : ctorUnsignedS 2 (-1) 2 3 = .ok 6 := rfl

/-- constructor from a python number `m * 2^e` (int or float) that the format can represent (it equals
    `v * 2^r` for a raw value `v` of the format): accepted, and the raw value is `v` -/
theorem C19.ctor_preserves_number (l r v m e : Int) (hlr : r ≤ l) (h : dyEq v r m e) :
    (inRangeS (l - r + 1) v → ctorNumS l r m e = .ok v) ∧ (inRangeU (l - r + 1) v → ctorNumU l r m e = .ok v) :=
  ⟨fun hv => ctorNumS_representable hlr hv h, fun hv => ctorNumU_representable hlr hv h⟩

example : dyEq (-3) (-1) (-3) (-1) ∧ ctorNumS 1 (-1) (-3) (-1) = .ok (-3) :=
  ⟨by unfold dyEq; decide, rfl⟩

/-! ## `__eq__` -/

/-- `x == number` (python int / float `m * 2^e`): whenever it returns (numbers outside the range of the format
    are rejected by `static_assert`), the answer is the comparison of the two represented numbers -/
theorem C19.eq_compares_numbers (l r v m e : Int) (b : Bool) :
    (eqNumS l r v m e = .ok b → (b = true ↔ dyEq v r m e)) ∧
    (eqNumU l r v m e = .ok b → (b = true ↔ dyEq v r m e)) :=
  ⟨eqNumS_spec, eqNumU_spec⟩

example : eqNumS (-2) (-2) 0 (-1) (-3) = .ok false := rfl
example : eqNumS 1 (-1) 3 3 (-1) = .ok true := rfl

/-- `__eq__` of two values of the same format (other formats are rejected by `assert type(other) is type(self)`)
    compares the raw values, i.e. the represented numbers scaled by the common exponent `2^k` -/
theorem C19.eq_compares_numbers_same_format (v1 v2 k : Int) : (v1 == v2) = true ↔ v1 * p2 k = v2 * p2 k := by
  have hk := p2_pos k
  constructor
  · intro h; rw [eq_of_beq h]
  · intro h
    have : v1 = v2 := Int.eq_of_mul_eq_mul_right (Int.ne_of_gt hk) h
    simp [this]
