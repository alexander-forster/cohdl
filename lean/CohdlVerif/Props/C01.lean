import CohdlVerif.Model.Coro
import CohdlVerif.Lemmas.C01Top
import CohdlVerif.Lemmas.C01Frag
import CohdlVerif.Lemmas.C01Unf

/-! C01 - coroutine -> state machine: the certificate checker is sound (`C01.validate_sound`), and the mirror of the
  compiler is correct on every well-formed program (`C01.compile_correct`); its structural half is
  `C01.compile_step`. -/
open CohdlVerif.C01

variable {σ : Type} (act : Nat → σ → σ) (cond : Nat → σ → Bool)

/-- `norm` turns the code of a state into a decision tree with the same effect and the same transition -/
theorem C01.norm_sound (c : Code) : ∀ (p : Option Nat) (k : Option Nat → Tree) (s : σ),
    runTree act cond (norm c p k) s =
      runTree act cond (k (exec act cond c s p).2) (exec act cond c s p).1 := by
  induction c with
  | nil => intro p k s; simp [norm, exec]
  | act a c ih => intro p k s; simp [norm, exec, runTree, ih]
  | trans t c ih => intro p k s; simp [norm, exec, ih]
  | ite c t e r iht ihe ihr =>
    intro p k s
    simp only [norm, exec, runTree]
    split
    · rw [iht, ihr]
    · rw [ihe, ihr]

/-- the symbolic tree `unf` computes for a statement is what `run` does from there up to the next suspension -/
theorem C01.unf_sound : ∀ (f : Nat) (p : Stmt) (st : List Frame) (fr : Bool) (t : STree),
    unf f p st fr = some t → ∀ s : σ, run act cond f p st fr s = some (runS act cond t s) := by
  intro f
  induction f with
  | zero => intro p st fr t h; exact nomatch h
  | succ f ih =>
    -- every case is the defining equation of `unf` and of `run` for that form, then the induction hypothesis
    intro p st fr t h s
    cases p with
    | skip =>
      cases st with
      | nil => cases h; rfl
      | cons fr0 st =>
        cases fr0 with
        | seq k => exact ih _ _ _ _ h s
        | loop c b k => cases h; rfl
        | callF k => exact ih _ _ _ _ h s
    | act a k =>
      obtain ⟨t', h', rfl⟩ := Option.map_eq_some_iff.mp h
      exact ih _ _ _ _ h' _
    | await c k =>
      cases fr with
      | false => cases h; rfl
      | true => exact await_sound act cond f ih c k st _ t h s
    | awaitF => cases h; rfl
    | ite c t1 e1 k =>
      obtain ⟨a, ha, h⟩ := Option.bind_eq_some_iff.mp h
      obtain ⟨b, hb, ht⟩ := Option.bind_eq_some_iff.mp h
      cases ht
      show (if cond c s then _ else _) = some (if cond c s then _ else _)
      split
      · exact ih _ _ _ _ ha _
      · exact ih _ _ _ _ hb _
    | while_ c b k =>
      cases fr with
      | false => cases h; rfl
      | true => exact atHead_sound act cond f ih .skip c b k st t h s
    | brk =>
      cases st with
      | nil => exact nomatch h
      | cons fr0 st => cases fr0 <;> exact ih _ _ _ _ h s
    | cont =>
      cases st with
      | nil => exact nomatch h
      | cons fr0 st =>
        cases fr0 with
        | seq k => exact ih _ _ _ _ h s
        | callF k => exact ih _ _ _ _ h s
        | loop c b k => exact atHead_sound act cond f ih .skip c b k st t h s
    | ret =>
      cases st with
      | nil => exact nomatch h
      | cons fr0 st => cases fr0 <;> exact ih _ _ _ _ h s
    | call b k => exact ih _ _ _ _ h s

/-- the same for one clock of the reference from a suspension -/
theorem C01.unfSusp_sound (f : Nat) (prog : Stmt) (r : Susp) (t : STree)
    (h : unfSusp f prog r = some t) (s : σ) :
    refStep act cond f prog r s = some (runS act cond t s) := by
  cases r with
  | start => exact C01.unf_sound act cond _ _ _ _ _ h s
  | atAwait c k st => exact await_sound act cond f (C01.unf_sound act cond f) c k st false t h s
  | atHead c b k st => exact atHead_sound act cond f (C01.unf_sound act cond f) prog c b k st t h s
  | stopped => cases h; rfl

/-- when `matchT` accepts a reference tree and a machine tree, they change the data alike in every data state, and the
    pair (suspension, next state) they end in is among the pairs it returns -/
theorem C01.matchT_sound : ∀ (st : STree) (t : Tree) (i : Nat) (ps : List (Susp × Nat)),
    matchT st t i = some ps → ∀ s : σ,
      (runS act cond st s).2 = (runTree act cond t s).1 ∧
      ((runS act cond st s).1, ((runTree act cond t s).2).getD i) ∈ ps := by
  intro st
  induction st with
  | leaf r =>
    intro t i ps h s
    cases t with
    | leaf n => simp [matchT] at h; subst h; simp [runS, runTree]
    | act _ _ => simp [matchT] at h
    | ite _ _ _ => simp [matchT] at h
  | act a k ih =>
    intro t i ps h s
    cases t with
    | leaf n => simp [matchT] at h
    | act b k' =>
      simp only [matchT] at h
      split at h
      · rename_i hab; subst hab; simp only [runS, runTree]; exact ih _ _ _ h _
      · simp at h
    | ite _ _ _ => simp [matchT] at h
  | ite c t1 e1 iht ihe =>
    intro t i ps h s
    cases t with
    | leaf n => simp [matchT] at h
    | act _ _ => simp [matchT] at h
    | ite c' t' e' =>
      simp only [matchT] at h
      split at h
      · rename_i hcc; subst hcc
        simp only [Option.bind_eq_bind, Option.bind_eq_some_iff, Option.pure_def, Option.some.injEq] at h
        obtain ⟨x, hx, y, hy, rfl⟩ := h
        simp only [runS, runTree]
        by_cases hc : cond c s = true
        · simp only [hc, if_true]
          have := iht _ _ _ hx s
          exact ⟨this.1, List.mem_append_left _ this.2⟩
        · simp only [hc]
          have := ihe _ _ _ hy s
          exact ⟨this.1, List.mem_append_right _ this.2⟩
      · simp at h

/-- one clock: a certificate `R` whose pairs all pass `closedAt` is a simulation relation -/
theorem C01.step_sim (f : Nat) (prog : Stmt) (sm : SM) (R : List (Susp × Nat))
    (hR : R.all (closedAt f prog sm R) = true) (r : Susp) (i : Nat) (hri : (r, i) ∈ R) (s : σ) :
    ∃ r' , refStep act cond f prog r s = some (r', (smStep act cond sm i s).2) ∧
           (r', (smStep act cond sm i s).1) ∈ R := by
  have h1 := List.all_eq_true.mp hR _ hri
  simp only [closedAt] at h1
  split at h1
  · simp at h1
  · rename_i st hst
    split at h1
    · simp at h1
    · rename_i ps hps
      have hm := C01.matchT_sound act cond _ _ _ _ hps s
      have hn := C01.norm_sound act cond (sm.codes.getD i .nil) none .leaf s
      simp only [runTree] at hn
      refine ⟨(runS act cond st s).1, ?_, ?_⟩
      · rw [C01.unfSusp_sound act cond f prog r st hst s]
        simp only [smStep]
        rw [hn] at hm
        simp only at hm
        rw [← hm.1]
      · have := List.all_eq_true.mp h1 _ hm.2
        simp only [smStep]
        rw [hn] at this
        simpa using this

/-- a certificate accepted by `closed` (contains (start, state 0) and is closed under a clock): the machine's data
    trace is the reference trace, with fuel `f` per clock -/
theorem C01.validate_sound (f : Nat) (prog : Stmt) (sm : SM) (R : List (Susp × Nat))
    (h : closed f prog sm R = true) (inp : Nat → σ → σ) (s0 : σ) :
    ∀ n, ∃ r, refTrace act cond f prog inp n (some (.start, s0)) = some (r, (smTrace act cond sm inp n (0, s0)).2)
            ∧ (r, (smTrace act cond sm inp n (0, s0)).1) ∈ R := by
  simp only [closed, Bool.and_eq_true] at h
  obtain ⟨h0, hR⟩ := h
  intro n
  induction n with
  | zero => exact ⟨.start, rfl, by simpa [smTrace] using h0⟩
  | succ n ih =>
    obtain ⟨r, hr, hmem⟩ := ih
    obtain ⟨r', hstep, hmem'⟩ := C01.step_sim act cond f prog sm R hR r _ hmem (inp n (smTrace act cond sm inp n (0, s0)).2)
    refine ⟨r', ?_, ?_⟩
    · simp only [refTrace, hr, smTrace]; exact hstep
    · simp only [smTrace]; exact hmem'

/-- C01 in the words of the property: if the certificate checker accepts (source body, emitted state
    machine), then after EVERY number of clocks, for EVERY way the environment changes the inputs between
    clocks (`inp`), every initial data state and EVERY interpretation of actions and conditions, the
    reference execution of the coroutine body is defined and the complete data state (outputs, registers,
    variables) of the state machine equals it: no clock is gained or lost on any path and no statement is
    skipped or executed twice. -/
theorem C01.no_clock_gained_or_lost (f : Nat) (prog : Stmt) (sm : SM) (R : List (Susp × Nat))
    (h : closed f prog sm R = true) (inp : Nat → σ → σ) (s0 : σ) (n : Nat) :
    (refTrace act cond f prog inp n (some (.start, s0))).map (·.2) =
      some (smTrace act cond sm inp n (0, s0)).2 := by
  obtain ⟨r, hr, _⟩ := C01.validate_sound act cond f prog sm R h inp s0 n
  rw [hr]; rfl

namespace CohdlVerif.C01.Example
/-- upstream design tests/reference_builds/coroutines/test_while_break_continue_01 as a `Stmt` ... -/
def prog : Stmt :=
  .act 1 (.while_ none (.act 2 (.act 3 (.await (some 10) (.ite 11 .cont .brk .skip)))) .skip)
def body : Code := .trans 2 (.act 2 (.act 3 .nil))
/-- ... and its real emitted state machine -/
def sm : SM := ⟨[ .trans 1 (.act 1 .nil), body, .ite 10 (.ite 11 body (.trans 0 .nil) .nil) .nil .nil ]⟩
def rel : List (Susp × Nat) :=
  [(.start, 0), (.atHead none (.act 2 (.act 3 (.await (some 10) (.ite 11 .cont .brk .skip)))) .skip [], 1),
   (.atAwait (some 10) (.ite 11 .cont .brk .skip)
      [.loop none (.act 2 (.act 3 (.await (some 10) (.ite 11 .cont .brk .skip)))) .skip], 2)]
/-- a wrong machine: after `break` it restarts at the loop head instead of the first statement -/
def smBad : SM := ⟨[ .trans 1 (.act 1 .nil), body,
  .ite 10 (.ite 11 body (.trans 1 .nil) .nil) .nil .nil ]⟩
end CohdlVerif.C01.Example

open CohdlVerif.C01.Example in
/-- non-vacuity: the hypothesis of `C01.validate_sound` holds for a real design (checked by the kernel) -/
example : closed 100 prog sm rel = true := by decide

open CohdlVerif.C01.Example in
/-- and the checker does reject a wrong machine -/
example : closed 100 prog smBad rel = false := by decide

/-!
  ## The compiler mirror (Model/CoroCompile.lean `compileSM`) is correct on every well-formed program

  `wf p false false`: `break` / `continue` only inside a loop of the same coroutine, `return` only inside an awaited
  sub-coroutine, `await false` not inside a sub-coroutine.  `compileSM p = some sm`: the mirror accepts, i.e. there is
  no `continue` in the first state of its loop; it is a hypothesis, and the tie checks on every run that the mirror
  accepts exactly when the real compiler does.  The fuel bound of the reference interpreter is per trace
  (`∃ f, ∀ f' ≥ f`).  `frag1` (skip | act | await c | await true | await false | if/else | while c | while True) and
  `frag2` (`frag1` + `break` + `continue`) are two fragments of `wf` (`C01.fragments`).
-/

/-- for every program of fragment 1, every interpretation of actions and conditions, every environment behaviour
    `inp`, every initial data state and every number of clocks: if the mirror of the real open-blocks algorithm
    produces the machine `sm`, the complete data state of `sm` after `n` clocks equals the data state of the
    reference execution of the coroutine body (for every sufficiently large fuel of the reference interpreter, which
    is in particular defined) -/
theorem C01.compile_correct_frag1 (p : Stmt) (hp : frag1 p = true) (sm : SM) (h : compileSM p = some sm)
    (inp : Nat → σ → σ) (s0 : σ) (n : Nat) :
    ∃ f, ∀ f', f ≤ f' → (refTrace act cond f' p inp n (some (.start, s0))).map (·.2) =
      some (smTrace act cond sm inp n (0, s0)).2 :=
  CohdlVerif.C01.compile_correct_wf act cond p (frag2_wf p false (frag1_frag2 p hp false)) sm h inp s0 n

/-- the same statement for fragment 2 = fragment 1 + `break` + `continue`
    (`frag2 p false`: break / continue only inside loops; loops left through `break`, `continue` re-checking a
    run-time condition or re-entering a `while True` body).  `compileSM p = some sm` excludes the designs the real
    compiler rejects (`continue` in the first state of its loop). -/
theorem C01.compile_correct_partial (p : Stmt) (hp : frag2 p false = true) (sm : SM) (h : compileSM p = some sm)
    (inp : Nat → σ → σ) (s0 : σ) (n : Nat) :
    ∃ f, ∀ f', f ≤ f' → (refTrace act cond f' p inp n (some (.start, s0))).map (·.2) =
      some (smTrace act cond sm inp n (0, s0)).2 :=
  CohdlVerif.C01.compile_correct_wf act cond p (frag2_wf p false hp) sm h inp s0 n

/-- THE FULL THEOREM: for every well-formed coroutine body of the whole grammar (act | await c | await true |
    await false | if/else | while c | while True | break | continue | return | awaited sub-coroutines, arbitrarily
    nested), every interpretation of actions and conditions, every environment behaviour `inp`, every initial data
    state and every number of clocks: if the mirror of the real open-blocks algorithm produces the machine `sm`, the
    complete data state of `sm` after `n` clocks equals that of the reference execution of the coroutine body (for
    every sufficiently large fuel of the reference interpreter, which is in particular defined). -/
theorem C01.compile_correct (p : Stmt) (hwf : wf p false false = true) (sm : SM) (h : compileSM p = some sm)
    (inp : Nat → σ → σ) (s0 : σ) (n : Nat) :
    ∃ f, ∀ f', f ≤ f' → (refTrace act cond f' p inp n (some (.start, s0))).map (·.2) =
      some (smTrace act cond sm inp n (0, s0)).2 :=
  CohdlVerif.C01.compile_correct_wf act cond p hwf sm h inp s0 n

/-- fragment 1 is contained in fragment 2, and fragment 2 in the well-formed programs -/
theorem C01.fragments (p : Stmt) : (frag1 p = true → frag2 p false = true) ∧ (frag2 p false = true → wf p false false = true) :=
  ⟨fun h => frag1_frag2 p h false, frag2_wf p false⟩

/-- the structural theorem behind it holds for the WHOLE grammar: a translation step only touches its open blocks
    and the blocks it creates, open blocks / break / continue / return lists only receive such blocks, roots and
    states are stable, every transition targets an existing state -/
theorem C01.compile_step (p : Stmt) (l c : Bool) (hwf : wf p l c = true) (O : List Nat) (s : CSt)
    (hl : Hlt s O) (hs : s.atStart = true → O = [0]) (hL : l = true → s.atStart = false) :
    Step s O (compile p O s).2 (compile p O s).1 :=
  (compile_spec p l c hwf O s hl hs hL).1

namespace CohdlVerif.C01.Example
/-- a program of fragment 1: await in both branches of an if, await true, await false -/
def prog1 : Stmt :=
  .act 1 (.ite 7 (.await (some 3) (.act 2 .skip)) (.act 4 (.await none .skip)) (.act 5 (.ite 8 .awaitF .skip (.act 6 .skip))))
end CohdlVerif.C01.Example

open CohdlVerif.C01.Example in
/-- non-vacuity of `C01.compile_correct_partial`: the hypotheses hold for a concrete program with awaits inside
    branches (the machine is computed by the kernel) -/
example : frag1 prog1 = true ∧ wf prog1 false false = true ∧
    (compileSM prog1).map (·.codes) = some
      [ .act 1 (.ite 7 (.trans 1 .nil) (.trans 2 (.act 4 .nil)) .nil),
        .ite 3 (.act 2 (.act 5 (.ite 8 (.trans 3 .nil) (.trans 0 (.act 6 .nil)) .nil))) .nil .nil,
        .act 5 (.ite 8 (.trans 4 .nil) (.trans 0 (.act 6 .nil)) .nil),
        .nil, .nil ] := by decide

open CohdlVerif.C01.Example in
/-- the mirror on the upstream loop design (loop + await + break + continue): it is well-formed, accepted, and the
    mirror's machine IS the real emitted state machine `Example.sm` -/
example : wf prog false false = true ∧ (compileSM prog).map (·.codes) = some sm.codes := by decide

namespace CohdlVerif.C01.Example
/-- a program of fragment 1 with loops: a loop as first statement (the first state is its head), an await and a nested
    `while True` with an await inside a branch -/
def prog2 : Stmt :=
  .while_ (some 3) (.act 2 (.await (some 0) (.act 3 .skip)))
    (.act 5 (.while_ none (.ite 4 (.await none (.act 6 .skip)) (.act 7 .skip) (.act 8 .skip)) .skip))
end CohdlVerif.C01.Example

open CohdlVerif.C01.Example in
/-- non-vacuity with loops: `prog2` is in the fragment and the mirror produces a machine for it -/
example : frag1 prog2 = true ∧ (compileSM prog2).isSome = true := by decide

open CohdlVerif.C01.Example in
/-- non-vacuity of `C01.compile_correct_partial`: the upstream loop + await + break + continue design
    `Example.prog` is in fragment 2 and the mirror produces (exactly the real) machine for it -/
example : frag2 prog false = true ∧ (compileSM prog).map (·.codes) = some sm.codes := by decide

namespace CohdlVerif.C01.Example
/-- a program with an awaited sub-coroutine that returns from inside a branch and from inside a loop, called inside
    a loop with break -/
def prog3 : Stmt :=
  .act 1 (.while_ none
    (.call (.ite 2 .ret (.act 2 .skip) (.while_ (some 3) (.await (some 0) (.ite 4 .ret .skip .skip)) (.act 3 .ret)))
      (.await none (.ite 1 .brk .skip .skip)))
    (.act 4 .skip))
end CohdlVerif.C01.Example

open CohdlVerif.C01.Example in
/-- non-vacuity of the full theorem `C01.compile_correct`: `prog3` (sub-coroutine, returns, loops, break) is
    well-formed and accepted by the mirror -/
example : wf prog3 false false = true ∧ (compileSM prog3).isSome = true := by decide

/-- the mirror rejects `continue` in the first state of its loop, as the real compiler does -/
example : compileSM (.while_ (some 1) (.act 1 .cont) .skip) = none := by decide
