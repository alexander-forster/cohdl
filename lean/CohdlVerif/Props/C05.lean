import CohdlVerif.Lemmas.C05Lemmas

/-!
  C05 - property theorems: type conversions on assignment preserve the value or are rejected.

  Model (Model/C05.lean): `assignOk` mirrors the accept/reject decision of the compiler per assignment form
  (front-end trial `_assign` / `T(value)` + the back end's `format_cast`), in the behaviour AFTER the two proposed
  repairs fixes/C05-declaration-trial-init.patch and fixes/C05-port-connection-type.patch; `castModel`/`evalV`
  mirror the printed VHDL cast and its numeric_std meaning; `allowed`, `mustReject`, `convert` are the sentence of
  the property.  All statements are for ALL widths and values.
-/
open CohdlVerif.C05

/-- SOUNDNESS OF THE DECISION, every form: whatever is accepted is not one of the conversions the property names as
    compile-time errors (narrowing, Signed<->Unsigned of equal width, width-mismatched BitVector, Bit<->vector,
    non-representable integer literal, mismatching bit string). -/
theorem C05.accepted_never_must_reject (f : Form) (t : Ty) (s : Src) (h : assignOk f t s = true) :
    mustReject t s = false := by
  cases f with
  | assign | sub _ | view _ => exact front_not_reject t s (Bool.and_eq_true_iff.mp h).1
  | init =>
    cases s with
    | rt st =>
      -- vectors run the trial construction; of the scalars only Bit is named by `mustReject` (Bit <- vector), and
      -- there the back end finds no cast
      have h := Bool.and_eq_true_iff.mp h
      cases t with
      | bv n | uns n | sgn n => all_goals exact init_not_reject _ _ h.1
      | bit => cases st <;> first | rfl | exact Bool.noConfusion h.2
      | bool | int => all_goals cases st <;> rfl
    | lit k | blit b | null | full | str bs => all_goals exact init_not_reject _ _ (Bool.and_eq_true_iff.mp h).1
  | portIn | portOut =>
    all_goals cases s <;> first
      | exact front_not_reject _ _ (Bool.and_eq_true_iff.mp h).2
      | exact Bool.noConfusion h

example : assignOk .init (.sgn 4) (.rt (.uns 4)) = false ∧ assignOk .portOut (.uns 2) (.rt (.uns 3)) = false ∧
    assignOk .assign (.sgn 4) (.rt (.uns 3)) = true := by decide

/-- ... and it is FALSE of the tree without the two repairs: a declaration `Signal[Unsigned[2]](signed2)` and an
    output port `Unsigned[3]` connected to an `Unsigned[2]` signal are accepted (both reproduced on the real
    compiler by harness/c05.py, the first reinterprets -1 as 3, the second drops a bit / is ill-typed VHDL). -/
theorem C05.accepted_never_must_reject_fails_at_unpatched :
    (assignOkUnpatched .init (.uns 2) (.rt (.sgn 2)) = true ∧ mustReject (.uns 2) (.rt (.sgn 2)) = true) ∧
    (assignOkUnpatched .portOut (.uns 2) (.rt (.uns 3)) = true ∧ mustReject (.uns 2) (.rt (.uns 3)) = true) := by
  decide

namespace CohdlVerif.C05
/-- EXACTLY the pairs the assignment operators accept although the sentence of the property does not list them
    (all of them are `grey`: neither listed as value preserving nor as an error):
    Python truthiness into bool (a vector or run-time Integer becomes `x /= 0`, Null is False, Full is True, "0"/"1"),
    and a run-time Integer into Unsigned / Signed (the known finding: `to_unsigned / to_signed` wrap). -/
def acceptedGrey : Ty → Src → Bool
  | .bool, .rt (.bv _) | .bool, .rt (.uns _) | .bool, .rt (.sgn _) | .bool, .rt .int => true
  | .bool, .null | .bool, .full => true
  | .bool, .str bs => bs.length == 1
  | .uns _, .rt .int | .sgn _, .rt .int => true
  | _, _ => false
end CohdlVerif.C05

/-- EXACT CHARACTERISATION for the assignment operators (`<<=` `.next` `^=` `.push` `@=` `.value`), no restriction:
    the compiler accepts exactly the conversions the property lists as value preserving plus the explicitly named
    `acceptedGrey` pairs (truthiness into bool, run-time Integer into Unsigned/Signed). -/
theorem C05.assignOk_iff_allowed (t : Ty) (s : Src) :
    assignOk .assign t s = (allowed t s || acceptedGrey t s) := by
  cases s with
  | rt st =>
    cases t <;> cases st <;> first
      | rfl
      | exact (assignOk_assign_vec rfl rfl).trans (Bool.or_false _).symm
  | blit b =>
    cases t with
    | uns n => cases b <;> exact (Bool.and_true _).trans (Bool.or_false _).symm
    | sgn n =>
      -- `_assign` checks the upper bound only
      refine (Bool.and_true _).trans (Eq.trans ?_ (Bool.or_false _).symm)
      exact Bool.eq_iff_iff.mpr ⟨inRange_sgn_b01, fun h => (Bool.and_eq_true_iff.mp h).2⟩
    | bit | bool | bv _ | int => all_goals rfl
  | lit _ | null | full | str _ =>
    all_goals cases t <;> first
      | rfl
      | exact (Bool.and_true _).trans (Bool.or_false _).symm
      | exact (Bool.and_true _).trans (Bool.false_or _).symm

/-- the sentence does not contradict itself: what it lists as value preserving `<<=` accepts, and `_assign` accepts
    nothing the sentence names as an error -/
theorem CohdlVerif.C05.allowed_not_reject (t : Ty) (s : Src) (h : allowed t s = true) : mustReject t s = false :=
  C05.accepted_never_must_reject .assign t s (by rw [C05.assignOk_iff_allowed, h]; rfl)

/-- the named pairs are outside the sentence: neither `allowed` nor `mustReject` -/
theorem C05.acceptedGrey_is_grey (t : Ty) (s : Src) (h : acceptedGrey t s = true) : grey t s = true := by
  unfold acceptedGrey at h
  split at h <;> first | rfl | exact Bool.noConfusion h

/-- corollary: on every pair the sentence speaks about, accepted <=> allowed -/
theorem C05.assignOk_iff_allowed_nongrey (t : Ty) (s : Src) (hg : grey t s = false) :
    assignOk .assign t s = allowed t s := by
  rw [C05.assignOk_iff_allowed]
  cases hgr : acceptedGrey t s with
  | false => simp
  | true => rw [C05.acceptedGrey_is_grey t s hgr] at hg; exact absurd hg (by simp)

example : acceptedGrey .bool (.rt (.uns 3)) = true ∧ acceptedGrey (.sgn 3) (.rt .int) = true ∧
    acceptedGrey (.uns 3) (.rt (.sgn 3)) = false := by decide

example : grey (.sgn 5) (.rt (.uns 5)) = false ∧ grey (.uns 3) (.lit 8) = false ∧ grey (.bool) (.rt (.uns 3)) = true := by
  decide

/-- VALUE PRESERVATION of the printed cast, EVERY form (assignment operators, declarations, ports, slice / element
    targets, `.unsigned/.signed/.bitvector` view targets). -/
theorem C05.cast_preserves (f : Form) (t s : Ty) (x : Int) (h : assignOk f t (.rt s) = true) (hs : s ≠ .int)
    (hwt : t.wf = true) (hws : s.wf = true) (hx : inRange s x = true) :
    ∃ e, castModel (vhdlTarget f t) t s = some e ∧
      vhdlWellTyped (vhdlTarget f t) (evalV e (encode s x)) = true ∧
      decodeAs t (evalV e (encode s x)) = some (convert t s x) := by
  cases ht : t.isVec
  · have hvt : vhdlTarget f t = t := vhdlTarget_scalar f ht
    rw [hvt]
    refine cast_scalar ht ?_ hs hws hx
    cases f with
    | assign | sub _ | view _ | init =>
      all_goals
        have h2 := (Bool.and_eq_true_iff.mp h).2
        rw [backOk, hvt] at h2
        exact h2
    | portIn | portOut =>
      all_goals
        obtain rfl := eq_of_beq (Bool.and_eq_true_iff.mp h).1
        cases s <;> first | rfl | cases ht
  · have hf := assignOk_front_vec f ht h
    obtain ⟨kt, n, rfl⟩ := isVec_eq_mkVec ht
    obtain ⟨ks, m, rfl⟩ := isVec_eq_mkVec (front_src_isVec ht hf hs)
    obtain ⟨k, hk⟩ := vhdlTarget_mkVec f kt n
    rw [hk]
    rw [wf_mkVec, decide_eq_true_eq] at hwt hws
    exact cast_vec k hf hwt hws hx

example : assignOk (.view .uns) (.sgn 8) (.rt (.sgn 4)) = true ∧ assignOk (.sub .sgn) (.bv 3) (.rt (.uns 3)) = true ∧
    castModel (.uns 8) (.sgn 8) (.sgn 4) = some (.asUns (.asSlv (.resize .x 8))) := by decide

example : assignOk .assign (.sgn 5) (.rt (.uns 3)) = true ∧ inRange (.uns 3) 7 = true := by decide

/-- The run-time Integer is the exception (a genuine defect, findings.d/C05.json): `to_signed(x, n)` /
    `to_unsigned(x, n)` wrap, the front end cannot see the value (its placeholder is 0). -/
theorem C05.cast_preserves_fails_at_runtime_integer :
    assignOk .assign (.sgn 3) (.rt .int) = true ∧
    (castModel (.sgn 3) (.sgn 3) .int).map (fun e => decodeAs (.sgn 3) (evalV e (encode .int 5))) = some (some (-3)) ∧
    convert (.sgn 3) .int 5 = 5 := by decide


/-- NOTHING IS TRUNCATED OR REINTERPRETED: when a number-typed run-time source (Unsigned / Signed) is accepted for
    a number-typed target in ANY form, every source value lies in the target's range and arrives as the same number. -/
theorem C05.never_truncates (f : Form) (t s : Ty) (x : Int)
    (h : assignOk f t (.rt s) = true) (ht : t.isNum = true) (hs : s.isNum = true) (hsi : s ≠ .int)
    (hws : s.wf = true) (hx : inRange s x = true) :
    inRange t x = true ∧ convert t s x = x := by
  have hc : convert t s x = x := by
    cases t <;> cases ht <;> cases s <;> first | rfl | cases hs
  refine ⟨?_, hc⟩
  cases hv : t.isVec
  · cases t <;> first
      | rfl
      | exact Bool.noConfusion ht
      | exact Bool.noConfusion hv.symm
  · rw [← hc]
    exact convert_inRange t s x (assignOk_front_vec f hv h) hsi hws hx

example : assignOk (.view .bv) (.sgn 4) (.rt (.uns 3)) = true ∧ inRange (.uns 3) 7 = true := by decide

/-- INTEGER LITERALS MUST BE REPRESENTABLE: an accepted int literal lies in the target's range and keeps its value
    (the only exception is Python truthiness `Signal[bool](5)` in a declaration, outside the property sentence). -/
theorem C05.literal_representable (f : Form) (t : Ty) (k : Int) (h : assignOk f t (.lit k) = true)
    (hb : ¬ (t = .bool ∧ f = .init)) :
    inRange t k = true ∧ convertLit t (.lit k) = some k := by
  have hfront : assignFront t (.lit k) = true := by
    cases f with
    | assign | sub _ | view _ => exact (Bool.and_eq_true_iff.mp h).1
    | init =>
      have h1 := (Bool.and_eq_true_iff.mp h).1
      cases t <;> first | exact h1 | exact absurd ⟨rfl, rfl⟩ hb
    | portIn | portOut => all_goals exact Bool.noConfusion h
  cases t <;> first
    | exact ⟨hfront, rfl⟩
    | exact ⟨hfront, congrArg some (truth_eq hfront)⟩
    | exact Bool.noConfusion hfront

example : assignOk .assign (.sgn 4) (.lit (-8)) = true ∧ assignOk .assign (.sgn 4) (.lit 8) = false ∧
    assignOk (.sub .uns) (.bit) (.lit 1) = true := by decide

/-- `_try_join` IS SOUND: when it returns a type r, constructing r from every option is none of the conversions the
    property names as errors (so every branch is redirected into the temporary by a permitted conversion). -/
theorem C05.join_sound (opts : List Src) (r : Ty) (h : tryJoin opts = some r) :
    ∀ o ∈ opts, initFront r o = true ∧ mustReject r o = false := by
  intro o ho
  have := List.all_eq_true.mp (tryJoin_some h).2.2 o ho
  exact ⟨this, init_not_reject _ _ this⟩

example : tryJoin [.rt (.bv 4), .rt (.sgn 4)] = some (.bv 4) ∧ tryJoin [.rt (.uns 4), .rt (.sgn 4)] = none ∧
    tryJoin [.rt (.uns 4), .rt (.uns 3)] = none := by decide

/-- MERGES (if-expression, function return, select_with): an accepted merge either goes through a join type r with
    permitted conversions option -> r and r -> target, or every option is converted into the target directly by a
    permitted conversion; equal literal branches are a plain assignment. -/
theorem C05.merge_sound (t : Ty) (a b : Src) (h : mergeOk t [a, b] = true) :
    (∃ r, tryJoin [a, b] = some r ∧ mustReject r a = false ∧ mustReject r b = false ∧ mustReject t (.rt r) = false) ∨
    (mustReject t a = false ∧ mustReject t b = false) := by
  unfold mergeOk at h
  cases hsl : sameLiteral [a, b] with
  | some c =>
    rw [hsl] at h
    have hall := (sameLiteral_mem _ c hsl).2
    obtain rfl := hall a (by simp)
    obtain rfl := hall b (by simp)
    have := C05.accepted_never_must_reject .assign t _ h
    exact Or.inr ⟨this, this⟩
  | none =>
    rw [hsl] at h
    unfold mergeJoin at h
    cases hj : tryJoin [a, b] with
    | some r =>
      rw [hj] at h
      simp only [List.all_cons, List.all_nil, Bool.and_true, Bool.and_eq_true] at h
      have hs := C05.join_sound [a, b] r hj
      exact Or.inl ⟨r, rfl, (hs a (by simp)).2, (hs b (by simp)).2, C05.accepted_never_must_reject .assign t (.rt r) h.2⟩
    | none =>
      rw [hj] at h
      simp only [List.all_cons, List.all_nil, Bool.and_true, Bool.and_eq_true] at h
      exact Or.inr ⟨init_not_reject _ _ h.1.1, init_not_reject _ _ h.2.1⟩

example : mergeOk (.uns 2) [.rt (.bv 2), .rt (.sgn 2)] = true ∧ mergeOk (.uns 4) [.rt (.uns 2), .rt (.uns 3)] = true ∧
    mergeOk (.uns 4) [.rt (.sgn 4), .rt (.uns 4)] = false := by decide

theorem CohdlVerif.C05.assignValue_rt {t s : Ty} {x : Int} (hf : assignFront t (.rt s) = true)
    (hb : backOk .assign t (.rt s) = true) (hs : s ≠ .int) (hwt : t.wf = true) (hws : s.wf = true)
    (hx : inRange s x = true) : assignValue t (.rt s) x = some (convert t s x) := by
  obtain ⟨e, he, -, hd⟩ := C05.cast_preserves .assign t s x (Bool.and_eq_true_iff.mpr ⟨hf, hb⟩) hs hwt hws hx
  rw [vhdlTarget_assign] at he
  simp [assignValue, he, hd]

/-- THE VALUE OF AN ACCEPTED MERGE (any number of alternatives; if-expression, return paths, select_with):
    whichever alternative `o` is taken, the target receives that alternative converted to the TARGET -
    Null / Full fill the target's own width, an int / bool literal arrives as its number, a run-time alternative as
    `convert target source` - also when the merge goes through a temporary of the join type of `_try_join`.
    Hypotheses: the direct conversion alternative -> target is one the property permits (`allowed`); the taken
    alternative is not a bit string; no alternative is a run-time Integer (known finding); vector widths are positive. -/
theorem C05.merge_preserves (t : Ty) (opts : List Src) (o : Src) (x : Int)
    (hok : mergeOk t opts = true) (ho : o ∈ opts) (hal : allowed t o = true)
    (hstr : ∀ bs, o ≠ .str bs) (hopts : ∀ s, .rt s ∈ opts → s ≠ .int ∧ s.wf = true)
    (hwt : t.wf = true) (hx' : ∀ s, o = .rt s → inRange s x = true) :
    mergeValue t opts o x = (match o with | .rt s => some (convert t s x) | l => convertLit t l) := by
  unfold mergeOk at hok
  unfold mergeValue
  cases hsl : sameLiteral opts with
  | some a =>
    obtain ⟨hlit, hall⟩ := sameLiteral_mem opts a hsl
    obtain rfl := hall o ho
    cases o <;> first | rfl | cases hlit
  | none =>
    rw [hsl] at hok
    unfold mergeJoin at hok
    cases hj : tryJoin opts with
    | none =>
      rw [hj] at hok
      have hoo := Bool.and_eq_true_iff.mp (List.all_eq_true.mp hok o ho)
      cases o with
      | rt s =>
        obtain ⟨hs, hws⟩ := hopts s ho
        exact assignValue_rt (initFront_rt t s hoo.1) hoo.2 hs hwt hws (hx' s rfl)
      | lit _ | blit _ | null | full | str _ => all_goals rfl
    | some r =>
      rw [hj] at hok
      obtain ⟨hall, htr⟩ := Bool.and_eq_true_iff.mp hok
      obtain ⟨hrn, hwr⟩ : r ≠ .int ∧ r.wf = true := by
        rcases tryJoin_type opts r hj with h | rfl
        · exact hopts r h
        · exact ⟨by simp, rfl⟩
      have hoo := Bool.and_eq_true_iff.mp (List.all_eq_true.mp hall o ho)
      obtain ⟨htf, htb⟩ := Bool.and_eq_true_iff.mp htr
      cases o with
      | rt s =>
        obtain ⟨hs, hws⟩ := hopts s ho
        have hxs := hx' s rfl
        have hrs := initFront_rt r s hoo.1
        show (assignValue r (.rt s) x).bind _ = _
        rw [assignValue_rt hrs hoo.2 hs hwr hws hxs, Option.bind_some,
          assignValue_rt htf htb hrn hwt hwr (convert_inRange r s x hrs hs hws hxs),
          convert_comp t r s x hrs htf hal hs hrn hws hxs]
      | lit _ | blit _ =>
        all_goals
          obtain ⟨y, hy, hyr, hc⟩ := literal_comp t r _ rfl hoo.1 htf hal hrn
          show (assignValue r _ x).bind _ = _
          rw [assignValue_lit r _ x rfl, hy, Option.bind_some, assignValue_rt htf htb hrn hwt hwr hyr, hc]
      | null => exact absurd rfl (tryJoin_no_nullfull opts r hj _ ho).1
      | full => exact absurd rfl (tryJoin_no_nullfull opts r hj _ ho).2
      | str bs => exact absurd rfl (hstr bs)

example : mergeOk (.uns 8) [.rt (.uns 4), .full] = true ∧ mergeValue (.uns 8) [.rt (.uns 4), .full] .full 0 = some 255 ∧
    mergeValue (.sgn 8) [.rt (.uns 4), .lit 3, .rt (.uns 4)] (.rt (.uns 4)) 9 = some 9 ∧ tryJoin [.rt (.uns 4), .lit 3, .rt (.uns 4)] = some (.uns 4) := by
  decide
