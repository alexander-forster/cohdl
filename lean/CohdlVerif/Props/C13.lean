import CohdlVerif.Lemmas.C13Hist
import CohdlVerif.Lemmas.C13Views
import CohdlVerif.Lemmas.C13Session
import CohdlVerif.Lemmas.C13Mro
import CohdlVerif.Lemmas.C13MroAgree
/-!
  C13 - property theorems.  Part A: for EVERY history of requests (any order, repeated, interleaved, rejected
  ones in between) the lazily built class table is canonical and carries exactly the documented lattice.
  Part B: every view derived from a root by slices / indices / casts / iteration aliases exactly the cells
  its ref-spec denotes, keeps root and qualifier, and nested ref-specs compose to absolute positions.
  Helper lemmas: Lemmas/C13Types, C13Hist (class table, histories), C13C3Map, C13Mro, C13MroAgree (C3 linearisation),
  C13Views, C13Session (part B).
-/
open CohdlVerif.C13

/-! ## Part A -/

/-- CANONICAL.  In every history two requests (anywhere, in any order, with anything in between) return the same
    class object iff they have the same parameters. -/
theorem C13.canonical (h : List Key) (n m : Nat) (k1 k2 : Key) (i j : Nat)
    (hn : h[n]? = some k1) (hm : h[m]? = some k2)
    (rn : (runHist initSt h).2[n]? = some (some i)) (rm : (runHist initSt h).2[m]? = some (some j)) :
    i = j ↔ k1 = k2 := by
  obtain ⟨_, _, hf⟩ := hist_final h
  have h1 := hf n k1 i hn rn
  have h2 := hf m k2 j hm rm
  constructor
  · intro e; subst e; exact find_inj _ k1 k2 i h1 h2
  · intro e; subst e; rw [h1] at h2; simpa using h2

example : (runHist initSt [.q .port (some .input) (.vec .uns .downto 3), .vec .uns .upto 8,
    .q .port (some .input) (.vec .uns .downto 3)]).2 = [some 26, some 28, some 26] := by decide +kernel

/-- `issubclass` between any two requested classes of any history is decided by the parameter tuples alone:
    it is membership in the key level closure of `baseKeys`, whatever was created before, between or after. -/
theorem C13.issubclass_history_independent (h : List Key) (n m : Nat) (k1 k2 : Key) (i j : Nat)
    (hn : h[n]? = some k1) (hm : h[m]? = some k2)
    (rn : (runHist initSt h).2[n]? = some (some i)) (rm : (runHist initSt h).2[m]? = some (some j)) :
    issub (runHist initSt h).1 i j = true ↔ k2 ∈ anc (rank k1) k1 := by
  obtain ⟨hI, hlen, hf⟩ := hist_final h
  exact issub_iff _ hI hlen k1 k2 i j (hf n k1 i hn rn) (hf m k2 j hm rm)

/-- LATTICE.  `Q[K[o,w]]` is a subclass of `Q[K]` and `Q[BitVector]` and, for `K` = Unsigned / Signed, of the DOWNTO
    `Q[BitVector[w]]` (same qualifier kind and direction), for every width, order, qualifier and every history.
    (For `K` = BitVector the UPTO `Q[BitVector[0:w-1]]` is no subclass of `Q[BitVector[w]]`, hence `k ≠ .bv` there.) -/
theorem C13.lattice (h : List Key) (n m : Nat) (i j : Nat) (qk : QKind) (d : Option Dir) (k : VKind) (o : Order)
    (w : Nat) (tgt : Key)
    (htgt : tgt = .q qk d (.vec .bv .downto w) ∧ k ≠ .bv ∨ tgt = .q qk d (.root (kroot k)) ∨ tgt = .q qk d (.root .bitvector))
    (hn : h[n]? = some (.q qk d (.vec k o w))) (hm : h[m]? = some tgt)
    (rn : (runHist initSt h).2[n]? = some (some i)) (rm : (runHist initSt h).2[m]? = some (some j)) :
    issub (runHist initSt h).1 i j = true := by
  rw [C13.issubclass_history_independent h n m _ _ i j hn hm rn rm, ← mroK_mem _ rfl]
  apply qChain_sub_mroK
  rcases htgt with ⟨rfl, hk⟩ | rfl | rfl
  · cases k <;> simp [qChain, chainA] at hk ⊢
  · cases k <;> simp [qChain, chainA, kroot]
  · cases k <;> simp [qChain, chainA]

/-- every port type is a signal type of the same wrapped type (any wrapped type, any direction) -/
theorem C13.port_is_signal (h : List Key) (n m : Nat) (i j : Nat) (d : Option Dir) (t : Key)
    (hn : h[n]? = some (.q .port d t)) (hm : h[m]? = some (.q .signal none t))
    (rn : (runHist initSt h).2[n]? = some (some i)) (rm : (runHist initSt h).2[m]? = some (some j)) :
    issub (runHist initSt h).1 i j = true := by
  rw [C13.issubclass_history_independent h n m _ _ i j hn hm rn rm]
  exact base_mem_anc _ _ (by simp [baseKeys])

example : (let r := runHist initSt [.q .signal none (.vec .bv .downto 3), .q .port (some .output) (.vec .sgn .upto 3)]
    match r.2 with
    | [some a, some b] => issub r.1 b a && !issub r.1 a b
    | _ => false) = true := by decide +kernel

/-- NO SPURIOUS SUBCLASS.  Between two qualified vector types `issubclass` holds exactly in the documented
    cases (`qvecLe`): same qualifier (or port -> signal), same width, and same kind and order or the
    `BitVector[w]` of an Unsigned/Signed.  Different widths, kinds, qualifiers or directions are never related,
    in any history. -/
theorem C13.no_spurious_subclass (h : List Key) (n m : Nat) (i j : Nat)
    (q1 : QKind) (d1 : Option Dir) (k1 : VKind) (o1 : Order) (w1 : Nat)
    (q2 : QKind) (d2 : Option Dir) (k2 : VKind) (o2 : Order) (w2 : Nat)
    (hn : h[n]? = some (.q q1 d1 (.vec k1 o1 w1))) (hm : h[m]? = some (.q q2 d2 (.vec k2 o2 w2)))
    (rn : (runHist initSt h).2[n]? = some (some i)) (rm : (runHist initSt h).2[m]? = some (some j)) :
    issub (runHist initSt h).1 i j = true ↔ qvecLe q1 d1 k1 o1 w1 q2 d2 k2 o2 w2 := by
  rw [C13.issubclass_history_independent h n m _ _ i j hn hm rn rm, ← mroK_mem _ rfl]
  exact qvec_mem_mroK ..

/-- the same for the unqualified vector types -/
theorem C13.no_spurious_subclass_prim (h : List Key) (n m : Nat) (i j : Nat)
    (k1 : VKind) (o1 : Order) (w1 : Nat) (k2 : VKind) (o2 : Order) (w2 : Nat)
    (hn : h[n]? = some (.vec k1 o1 w1)) (hm : h[m]? = some (.vec k2 o2 w2))
    (rn : (runHist initSt h).2[n]? = some (some i)) (rm : (runHist initSt h).2[m]? = some (some j)) :
    issub (runHist initSt h).1 i j = true ↔
      w2 = w1 ∧ ((k2 = k1 ∧ o2 = o1) ∨ (k1 ≠ .bv ∧ k2 = .bv ∧ o2 = .downto)) := by
  rw [C13.issubclass_history_independent h n m _ _ i j hn hm rn rm, ← mroK_mem _ rfl]
  cases k1 <;> cases k2 <;> simp [mroK, primTail, and_comm]

/-- observation (mirrors the code, not claimed by the property text): an UPTO `Unsigned[0:w-1]` derives from the
    DOWNTO `BitVector[w-1:0]`, not from `BitVector[0:w-1]` -/
theorem C13.upto_vector_base_is_downto (w : Nat) :
    Key.vec .bv .downto w ∈ anc (rank (.vec .uns .upto w)) (.vec .uns .upto w) ∧
    Key.vec .bv .upto w ∉ anc (rank (.vec .uns .upto w)) (.vec .uns .upto w) := by
  simp [rank, anc, baseKeys, rootBases]

/-- CREATION NEVER FAILS (lookup / recursion part).  Every legal request of every history returns a class: the
    recursion through the bases terminates within the bound and never hits an inconsistent table.
    (That `type(name, bases, {})` itself cannot fail on an inconsistent MRO is `C13.mro_exists` below.) -/
theorem C13.creation_never_fails (h : List Key) (n : Nat) (k : Key) (hn : h[n]? = some k) (hl : legal k = true) :
    ∃ i, (runHist initSt h).2[n]? = some (some i) :=
  runHist_legal h initSt inv_init init_roots n k hn hl

example : legal (.q .port (some .inout) (.arr (.arr (.vec .sgn .upto 65) 0) 3)) = true := by decide +kernel

/-- MRO EXISTS (general).  For EVERY history and EVERY class of the final table - requested classes of every kind, width,
    order, qualifier, direction, array element type / count / nesting, the classes created as their bases, the anonymous
    parents, the import-time roots - the C3 merge of the MROs of its bases never gets stuck (`type.__new__` cannot raise
    "Cannot create a consistent method resolution order"), and the resulting `__mro__` is the closed form `mroK` of the
    class's parameter tuple (each entry = the class of that tuple).  Proof: `mroK_c3` is the C3 certificate on parameter
    tuples for every shape with symbolic parameters, `c3merge_map` transports it along the injective map tuple -> class id,
    `mroTable_prefix` is the induction over the table in creation order (bases are created before the class: `Inv.ordered`). -/
theorem C13.mro_exists (h : List Key) (i : Nat) (c : Cls) (hc : (runHist initSt h).1[i]? = some c) :
    ∃ m, (mroTable (runHist initSt h).1)[i]? = some (some m) ∧
      m.map some = (mroK c.key).map (find (runHist initSt h).1) :=
  mroTable_spec _ (hist_final h).1 i c hc

/-- corollary: no entry of the MRO table of any history is a failure -/
theorem C13.mro_never_fails (h : List Key) : (mroTable (runHist initSt h).1).all Option.isSome = true := by
  rw [List.all_eq_true]
  intro x hx
  obtain ⟨i, hi, rfl⟩ := List.getElem_of_mem hx
  obtain ⟨m, hm, _⟩ := C13.mro_exists h i _ (List.getElem?_eq_getElem (mroTable_length _ ▸ hi))
  rw [List.getElem?_eq_getElem hi, Option.some.injEq] at hm
  rw [hm]
  rfl

/-- Python's `issubclass(A, B)` is `B in A.__mro__`; the lattice theorems above speak about reachability along
    `__bases__` (`issub`).  For every history and any two requested classes the two coincide: membership of `B` in the C3
    linearisation of `A` <-> `issub`. -/
theorem C13.mro_is_issubclass (h : List Key) (n m : Nat) (k1 k2 : Key) (i j : Nat) (mro : List Nat)
    (hn : h[n]? = some k1) (hm : h[m]? = some k2)
    (rn : (runHist initSt h).2[n]? = some (some i)) (rm : (runHist initSt h).2[m]? = some (some j))
    (hmro : (mroTable (runHist initSt h).1)[i]? = some (some mro)) :
    j ∈ mro ↔ issub (runHist initSt h).1 i j = true := by
  obtain ⟨hI, hlen, hf⟩ := hist_final h
  have h1 := hf n k1 i hn rn
  have h2 := hf m k2 j hm rm
  obtain ⟨c, hc, hck⟩ := find_key _ k1 i h1
  obtain ⟨m', hm', hmk⟩ := C13.mro_exists h i c hc
  rw [hmro] at hm'
  simp only [Option.some.injEq] at hm'
  subst hm'
  rw [hck] at hmk
  exact mro_mem_iff_issub _ hI hlen k1 k2 i j mro h1 h2 hmk

example : ((mroTable (runHist initSt [.q .port (some .input) (.vec .uns .upto 3)]).1).getLast?).map (·.map List.length) = some (some 15) := by
  decide +kernel

/-! ## Part B -/

/-- VIEWS ALIAS THE ROOT.  For every view `v` obtained from a root object of width `W` by any chain of
    slices / indices / casts / iteration: its cells are distinct positions inside the root; a write of `vals` through
    the view changes exactly those cells (to `vals`, in order) and nothing else; a read through the view sees the
    root's cells. -/
theorem C13.view_aliases {α : Type} (id : Nat) (q : Qual) (vt : VT) (W : Nat) (hvt : vt ≠ .bit)
    (ops : List Op) (v : View) (hv : applyOps (rootView id q vt W) ops = some v)
    (s vals : List α) (hs : s.length = W) (hl : v.cells.length = vals.length) :
    v.cells.Nodup ∧ (∀ c ∈ v.cells, c < W) ∧
    (write s v.cells vals).length = W ∧
    (∀ i, i ∉ v.cells → (write s v.cells vals)[i]? = s[i]?) ∧
    CohdlVerif.C13.read (write s v.cells vals) v.cells = vals.map some ∧
    CohdlVerif.C13.read s v.cells = v.cells.map (s[·]?) := by
  have hok := applyOps_ok W ops _ v (rootView_ok id q vt W hvt) hv
  obtain ⟨hnd, hlt⟩ := cells_of_ok W v hok
  exact ⟨hnd, hlt, by rw [write_length, hs], fun i hi => write_get_not_mem _ _ _ i hi,
    read_write _ s vals hnd hl (fun c hc => hs ▸ hlt c hc), rfl⟩

/-- a second view of the same root sees the write exactly on the shared cells -/
theorem C13.view_aliases_other {α : Type} (cells1 cells2 : List Nat) (s vals : List α)
    (hd : ∀ c ∈ cells2, c ∉ cells1) :
    CohdlVerif.C13.read (write s cells1 vals) cells2 = CohdlVerif.C13.read s cells2 := by
  simp only [CohdlVerif.C13.read]
  apply List.map_congr_left
  intro c hc
  exact write_get_not_mem _ _ _ c (hd c hc)

example : (applyOps (rootView 0 .signal .bv 8) [.slice 7 2, .slice 3 1, .unsigned]).map (·.cells) = some [3, 4, 5] := by decide +kernel
example : write [0, 0, 0, 0, 0, 0, 0, 0] [3, 4, 5] [1, 2, 3] = [0, 0, 0, 1, 2, 3, 0, 0] := by decide +kernel

/-- ROOT AND QUALIFIER ARE KEPT by every chain of view operations. -/
theorem C13.root_and_qualifier_kept (r : View) (ops : List Op) (v : View) (hv : applyOps r ops = some v) :
    v.root = r.root ∧ v.qual = r.qual :=
  applyOps_root_qual ops r v hv

/-- REF-SPECS COMPOSE.  (1) The name the back end prints for a derived view (last ref-spec after
    `Offset/Slice.simplify`) denotes exactly the cells the view aliases, for every chain of operations.
    (2) Associativity: a slice of a slice (at any position of a chain) is the single slice with the offsets added:
    same cells, same printed name. -/
theorem C13.refspec_compose (id : Nat) (q : Qual) (vt : VT) (W : Nat) (hvt : vt ≠ .bit) :
    (∀ (ops : List Op) (v : View), applyOps (rootView id q vt W) ops = some v → resolve W v = v.cells) ∧
    (∀ (ops : List Op) (h1 l1 h2 l2 : Nat) (v : View),
      applyOps (rootView id q vt W) (ops ++ [.slice h1 l1, .slice h2 l2]) = some v →
      ∃ v', applyOps (rootView id q vt W) (ops ++ [.slice (h2 + l1) (l2 + l1)]) = some v' ∧
        v'.cells = v.cells ∧ resolve W v' = resolve W v ∧ v'.vt = v.vt ∧ v'.root = v.root ∧ v'.qual = v.qual) := by
  have hroot := rootView_ok id q vt W hvt
  refine ⟨fun ops v hv => resolve_of_ok W v (applyOps_ok W ops _ v hroot hv), ?_⟩
  intro ops h1 l1 h2 l2 v hv
  have hok := applyOps_ok W _ _ v hroot hv
  rw [applyOps_append] at hv
  obtain ⟨u, hu, hv⟩ := Option.bind_eq_some_iff.mp hv
  obtain ⟨v1, hv1, hv⟩ := (applyOps_cons_some ..).mp hv
  obtain ⟨v2, hv2, hv⟩ := (applyOps_cons_some ..).mp hv
  cases hv
  obtain ⟨v', hr, hcells, hvt', hroot', hqual'⟩ := slice_slice u v1 v h1 l1 h2 l2 hv1 hv2
  have hok' : RefOK W v' := applyOp_ok W u v' _ (applyOps_ok W ops _ u hroot hu) hr
  refine ⟨v', ?_, hcells, ?_, hvt', hroot', hqual'⟩
  · rw [applyOps_append, hu]
    simp only [Option.bind_some, applyOps, hr]
  · rw [resolve_of_ok W v' hok', resolve_of_ok W v hok, hcells]

example : (applyOps (rootView 0 (.port 1) .uns 8) [.slice 7 2, .slice 3 1, .index 1]).map (resolve 8) = some [4] := by decide +kernel

/-- GENUINE DEFECT of the current tree (fixes/C13-iter-nested-slice.patch): `TypeQualifier.__iter__` as it is
    (`iterCurrent`) drops the base offset of a nested slice: the first element of `x[1:1][0:0]` is cell 1 of
    the root, but its ref-spec resolves to cell 0. -/
theorem C13.iter_refspec_fails_at :
    ∃ v e, applyOps (rootView 0 .signal .bv 2) [.slice 1 1, .slice 0 0] = some v ∧ iterCurrent v 0 = some e ∧
      e.cells = [1] ∧ resolve 2 e = [0] := by
  refine ⟨_, _, rfl, rfl, ?_, ?_⟩ <;> decide

/-- SESSIONS.  Views may be created at any time (from the root or from any live view) and writes of any kind
    (explicit bits, bit-serial or snapshot copies from another live view, rejected writes) may go through the root
    or any live view, in any interleaving: after every such history the storage still has the root's width and
    EVERY live view - created before or after any of the writes - is a well-formed view of the same root (same root
    id and qualifier, distinct cells inside the root, printed name = its cells), and what it shows is, cell by cell,
    the current content of the root (`Sess.shown` reads the one storage: there is no second copy that could go stale). -/
theorem C13.session_views_stay_aliases (vt : VT) (bits : List Bool) (hvt : vt ≠ .bit) (steps : List Step) (v : View)
    (hm : some v ∈ (runSess (Sess.init vt bits) steps).views) :
    (runSess (Sess.init vt bits) steps).store.length = bits.length ∧
    v.root = 0 ∧ v.qual = .signal ∧ v.cells.Nodup ∧ (∀ c ∈ v.cells, c < bits.length) ∧
    resolve bits.length v = v.cells ∧
    some (v.cells.map ((runSess (Sess.init vt bits) steps).store.getD · false)) ∈ (runSess (Sess.init vt bits) steps).shown := by
  obtain ⟨hl, hv⟩ := runSess_ok bits.length steps _ (init_ok vt bits hvt)
  obtain ⟨hok, hr, hq⟩ := hv v hm
  obtain ⟨hnd, hlt⟩ := cells_of_ok _ v hok
  refine ⟨hl, hr, hq, hnd, hlt, resolve_of_ok _ v hok, ?_⟩
  simp only [Sess.shown, List.mem_map]
  exact ⟨some v, hm, rfl⟩

example : (runSess (Sess.init .bv [true, true, true, true]) [.view 0 (.slice 2 1), .wr 0 [false, false, false, false],
    .view 0 (.index 2), .wr 1 [true, false], .copySeq 0 0]).shown =
    [some [false, true, false, false], some [true, false], some [false]] := by decide +kernel
