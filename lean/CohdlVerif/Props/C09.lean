import CohdlVerif.Lemmas.C09Methods

/-!
  C09 - property theorems: the compile-time evaluation `pyBin / pyUn / pyPar` (mirror of the Python methods the
  tracer executes on constant operands) yields exactly the documented value, type and width `specBin / specUn /
  specPar` (= what numeric_std computes for the emitted expression) wherever the specification is defined -
  for ALL widths and values - and never raises there.  The statements have the form
  `spec = some v -> pyFold = ok v` (totality and agreement at once; the specification is undefined for division
  by zero, for integers outside the representable range of the vector operand and for unsupported type pairs).
  One theorem per operand-kind pair (uu, ss, ui, iu, si, is, ii, shifts, Null/Full, `@`, BitVector/Bit, unary,
  resize / index / slice), each for every operator.  The model mirrors the tree with fixes/C09-*.patch applied; the `_old_fails_at` theorems are the
  witnesses against the unpatched code.
-/
open CohdlVerif.C09

/-- shifts: Unsigned or Signed value shifted by an Unsigned amount or a non-negative int: `<<` wraps at the
    operand's width, `>>` is the floor of value / 2^r (logical for Unsigned, arithmetic for Signed) -/
theorem C09.shift_fold_eq_spec (op : BinOp) (hop : op = .shl ∨ op = .shr) (k : Kind) (w n : Nat) (b : Val)
    (hw : 1 ≤ w) (hn : n < 2 ^ w) (v : Val)
    (hs : specBin op (.vec k w n) b = some v) : pyBin op (.vec k w n) b = .ok v := by
  have hx := inRange_valOf k w n hw hn
  cases hsa : shiftAmount b with
  | none => rcases hop with rfl | rfl <;> dsimp only [specBin] at hs <;> rw [hsa] at hs <;> cases hs
  | some r =>
    have hd := M_pos r.toNat
    rcases hop with rfl | rfl
    all_goals
      dsimp only [specBin] at hs
      rw [hsa] at hs
      dsimp only at hs
      obtain ⟨hc, rfl⟩ := of_ite_some hs
      rw [Bool.and_eq_true, decide_eq_true_eq] at hc
      have hr := Int.not_lt.mpr hc.2
      cases k
      case bv => cases hc.1
    · dsimp only [pyBin, lhsMethod, uShl, valOf]
      rw [hsa]
      dsimp only
      rw [if_neg hr, if_pos rfl, mkU_mod, Int.natCast_mul]
    · dsimp only [pyBin, lhsMethod, sShl, valOf]
      rw [hsa]
      dsimp only
      rw [if_neg hr, if_pos rfl]
      rfl
    · have h := inRange_fdiv_pos .uns w _ _ hx hd
      dsimp only [pyBin, lhsMethod, uShr, valOf] at h ⊢
      rw [hsa]
      dsimp only
      rw [Int.fdiv_eq_ediv_of_nonneg _ (Int.le_of_lt hd)] at h ⊢
      rw [if_neg hr, if_neg (by decide), Int.natCast_ediv, mkU_ok _ _ h]
    · have h := inRange_fdiv_pos .sgn w _ _ hx hd
      dsimp only [pyBin, lhsMethod, sShr, valOf] at h ⊢
      rw [hsa]
      dsimp only
      rw [if_neg hr, if_neg (by decide), mkS_ok _ _ h]

/-- concatenation `@` of any two of Unsigned / Signed / BitVector / Bit: the left operand forms the most significant
    bits, the result is a plain BitVector of the summed width -/
theorem C09.cat_fold_eq_spec (a b v : Val) (hs : specBin .cat a b = some v) : pyBin .cat a b = .ok v := by
  cases a
  case bit x =>
    cases b
    case bit y =>
      cases Option.some.inj hs
      dsimp only [pyBin, lhsMethod, bitMatmul]
      rw [Nat.mul_comm]
    case vec k2 w2 n2 =>
      cases Option.some.inj hs
      dsimp only [pyBin, lhsMethod, bitMatmul, vRmatmul]
      rw [Nat.add_comm]
    all_goals cases hs
  case vec k w n =>
    cases b
    case bit y =>
      cases Option.some.inj hs
      cases k
      all_goals
        dsimp only [pyBin, lhsMethod, vMatmul]
        rw [Nat.mul_comm]
    case vec k2 w2 n2 =>
      cases Option.some.inj hs
      cases k <;> rfl
    all_goals cases hs
  all_goals cases hs

theorem CohdlVerif.C09.vec_bitwise_fold {op : BinOp} (hop : op = .and ∨ op = .or ∨ op = .xor) {k : Kind} {w n : Nat}
    {b v : Val} (hs : specBin op (.vec k w n) b = some v) : pyBin op (.vec k w n) b = .ok v := by
  rcases hop with rfl | rfl | rfl
  all_goals
    cases b
    case vec k2 w2 n2 =>
      obtain ⟨hc, rfl⟩ := of_ite_some hs
      cases k
      all_goals
        dsimp only [pyBin, lhsMethod, vBitwise]
        rw [if_pos hc]
    all_goals cases hs

theorem CohdlVerif.C09.vec_fold {op : BinOp} {k : Kind} {w n w2 : Nat} {b v : Val} {y : Int}
    (hk : isNumeric k = true) (hw : 1 ≤ w) (hn : n < 2 ^ w) (hb : Operand k w b w2 y)
    (hs : specBin op (.vec k w n) b = some v) : pyBin op (.vec k w n) b = .ok v := by
  cases op
  case shl => exact C09.shift_fold_eq_spec _ (.inl rfl) k w n b hw hn v hs
  case shr => exact C09.shift_fold_eq_spec _ (.inr rfl) k w n b hw hn v hs
  case cat => exact C09.cat_fold_eq_spec _ _ v hs
  case and | or | xor => exact vec_bitwise_fold (by decide) hs
  case fdiv =>
    -- `//` is only specified for two Unsigned, where it truncates like `op.truncdiv`
    cases k
    case uns =>
      cases hb
      case vec n2 hw2 hn2 =>
        obtain ⟨h0, rfl⟩ := of_ite_none hs
        dsimp only [pyBin, lhsMethod, uFloordiv, uTruncdiv]
        rw [if_neg h0, mkU_fdiv w n n2 (inRange_valOf .uns w n hw hn) (Int.natCast_nonneg n2)]
      all_goals cases hs
    all_goals cases hs
  all_goals
    rw [specBin_operand hk rfl hb] at hs
    split at hs
    case isFalse => cases hs
    exact arith_fold hk hw hn hb ‹_› hs

/-- Unsigned x Unsigned, every binary operator, all widths and values -/
theorem C09.uu_fold_eq_spec (op : BinOp) (wa na wb nb : Nat) (hwa : 1 ≤ wa) (hwb : 1 ≤ wb)
    (ha : na < 2 ^ wa) (hb : nb < 2 ^ wb) (v : Val)
    (hs : specBin op (.vec .uns wa na) (.vec .uns wb nb) = some v) :
    pyBin op (.vec .uns wa na) (.vec .uns wb nb) = .ok v :=
  vec_fold rfl hwa ha (.vec hwb hb) hs

example : specBin .sub (.vec .uns 4 5) (.vec .uns 2 1) = some (.vec .uns 4 4) := by decide

/-- Signed x Signed, every binary operator, all widths and values -/
theorem C09.ss_fold_eq_spec (op : BinOp) (wa na wb nb : Nat) (hwa : 1 ≤ wa) (hwb : 1 ≤ wb)
    (ha : na < 2 ^ wa) (hb : nb < 2 ^ wb) (v : Val)
    (hs : specBin op (.vec .sgn wa na) (.vec .sgn wb nb) = some v) :
    pyBin op (.vec .sgn wa na) (.vec .sgn wb nb) = .ok v :=
  vec_fold rfl hwa ha (.vec hwb hb) hs

/-- Signed x Python int / cohdl.Integer (int in the representable range of the vector), every binary operator -/
theorem C09.si_fold_eq_spec (op : BinOp) (w n : Nat) (r : Int) (b : Val) (hb : b = .int r ∨ b = .integer r)
    (hw : 1 ≤ w) (hn : n < 2 ^ w) (v : Val)
    (hs : specBin op (.vec .sgn w n) b = some v) : pyBin op (.vec .sgn w n) b = .ok v :=
  vec_fold rfl hw hn (.of_intLike hb) hs

/-- Python int / cohdl.Integer x Signed (int in the representable range of the vector), every binary operator -/
theorem C09.is_fold_eq_spec (op : BinOp) (w n : Nat) (l : Int) (a : Val) (ha : a = .int l ∨ a = .integer l)
    (hw : 1 ≤ w) (hn : n < 2 ^ w) (v : Val)
    (hs : specBin op a (.vec .sgn w n) = some v) : pyBin op a (.vec .sgn w n) = .ok v :=
  int_vec_fold rfl hw hn ha hs

/-- Unsigned x Python int / cohdl.Integer (int in the representable range of the vector), every binary operator -/
theorem C09.ui_fold_eq_spec (op : BinOp) (w n : Nat) (r : Int) (b : Val) (hb : b = .int r ∨ b = .integer r)
    (hw : 1 ≤ w) (hn : n < 2 ^ w) (v : Val)
    (hs : specBin op (.vec .uns w n) b = some v) : pyBin op (.vec .uns w n) b = .ok v :=
  vec_fold rfl hw hn (.of_intLike hb) hs

/-- Python int / cohdl.Integer x Unsigned (int in the representable range of the vector), every binary operator -/
theorem C09.iu_fold_eq_spec (op : BinOp) (w n : Nat) (l : Int) (a : Val) (ha : a = .int l ∨ a = .integer l)
    (hw : 1 ≤ w) (hn : n < 2 ^ w) (v : Val)
    (hs : specBin op a (.vec .uns w n) = some v) : pyBin op a (.vec .uns w n) = .ok v :=
  int_vec_fold rfl hw hn ha hs

/-- Unsigned with a Python int on either side, `+` and `-`: wraps at the vector's width (for every int: the
    Python code reduces the int modulo 2^w first, so the in-range hypothesis of the spec is not even needed) -/
theorem C09.ui_addsub_fold_eq_spec (w n : Nat) (r : Int) (hw : 1 ≤ w) (hn : n < 2 ^ w) :
    pyBin .add (.vec .uns w n) (.int r) = .ok (wrap .uns w ((n : Int) + r)) ∧
    pyBin .sub (.vec .uns w n) (.int r) = .ok (wrap .uns w ((n : Int) - r)) ∧
    pyBin .add (.int r) (.vec .uns w n) = .ok (wrap .uns w (r + (n : Int))) ∧
    pyBin .sub (.int r) (.vec .uns w n) = .ok (wrap .uns w (r - (n : Int))) := by
  refine ⟨?_, ?_, ?_, ?_⟩
  · simpa only [Nat.max_self, valOf] using pyBin_add (k := .uns) (n := n) rfl hw (.int r) nofun
  · simpa only [Nat.max_self, valOf] using pyBin_sub (k := .uns) (n := n) rfl hw (.int r)
  · simpa only [Nat.max_self, valOf] using pyBin_radd (k := .uns) (n := n) rfl hw (.inl rfl) nofun
  · simpa only [Nat.max_self, valOf] using pyBin_rsub (k := .uns) rfl hw hn (.inl rfl) nofun

/-- cohdl.Integer / Python int among themselves (at least one Integer, or `op.truncdiv` / `op.rem` on two ints),
    every binary operator -/
theorem C09.ii_fold_eq_spec (op : BinOp) (a b : Val) (x y : Int)
    (ha : a = .int x ∨ a = .integer x) (hb : b = .int y ∨ b = .integer y) (v : Val)
    (hs : specBin op a b = some v) : pyBin op a b = .ok v := by
  rcases ha with rfl | rfl
  · rcases hb with rfl | rfl
    · cases op
      case tdiv | rem =>
        obtain ⟨h0, rfl⟩ := of_ite_none hs
        dsimp only [pyBin, opTruncdiv, opRem]
        simp only [if_neg h0, truncDiv_eq, truncRem_eq]
      all_goals cases hs
    · -- int x Integer: the reflected methods of Integer (`__radd__`, `__rsub__`, mirrored comparisons)
      cases op
      case add | sub => cases Option.some.inj hs; rfl
      case eq | ne | lt | gt | le | ge =>
        cases Option.some.inj hs
        rw [← cmpInt_swap]
        rfl
      all_goals cases hs
  · -- Integer on the left: its own methods, `op.truncdiv` and `op.rem` give 0 on division by zero
    rcases hb with rfl | rfl
    all_goals
      cases op
      case add | sub | mul | eq | ne | lt | gt | le | ge => cases Option.some.inj hs; rfl
      case tdiv | rem | mod =>
        obtain ⟨h0, rfl⟩ := of_ite_none hs
        dsimp only [pyBin, opTruncdiv, opRem, lhsMethod, iArith, isIntLike]
        simp only [if_neg h0, truncDiv_eq, truncRem_eq, resToExcept]
      all_goals cases hs

example : specBin .tdiv (.integer (-7)) (.int 2) = some (.integer (-3)) := by decide

/-- `resize(target, zeros=z)` of Unsigned and Signed: value * 2^z, zero / sign extended, for every width, value,
    target and zeros (the specification requires `0 ≤ zeros` and `width + zeros ≤ target`) -/
theorem C09.resize_fold_eq_spec (k : Kind) (w n : Nat) (p1 p2 : Int) (hw : 1 ≤ w) (hn : n < 2 ^ w) (v : Val)
    (hs : specPar .resize (.vec k w n) p1 p2 = some v) : pyPar .resize (.vec k w n) p1 p2 = .ok v := by
  obtain ⟨hc, rfl⟩ := of_ite_some hs
  rw [Bool.and_eq_true, Bool.and_eq_true, decide_eq_true_eq, decide_eq_true_eq] at hc
  have hm := mkVec_ok hc.1.1 _ _ (inRange_mul_pow k w p2.toNat p1.toNat _ hw (by omega) (inRange_valOf k w n hw hn))
  cases k
  case bv => cases hc.1.1
  all_goals
    dsimp only [pyPar, uResize, sResize, valOf, mkVec] at hm ⊢
    rw [if_neg (Int.not_lt.mpr hc.1.2), if_pos hc.2, hm]
    rfl

example : specPar .resize (.vec .sgn 3 5) 6 2 = some (.vec .sgn 6 52) := by decide

/-- `[i]`, `[hi:lo]`, `msb(k)`, `lsb(k)`, `resize`: every operand, every parameter value -/
theorem C09.par_fold_eq_spec (op : ParOp) (a v : Val) (p1 p2 : Int)
    (hwf : ∀ k w n, a = .vec k w n → 1 ≤ w ∧ n < 2 ^ w)
    (hs : specPar op a p1 p2 = some v) : pyPar op a p1 p2 = .ok v := by
  cases a
  case vec k w n =>
    obtain ⟨hw, hn⟩ := hwf k w n rfl
    cases op
    case resize => exact C09.resize_fold_eq_spec k w n p1 p2 hw hn v hs
    all_goals
      -- the Python code and the specification test the same index condition
      obtain ⟨hc, rfl⟩ := of_ite_some hs
      dsimp only [pyPar]
      rw [if_pos hc]
  all_goals cases op <;> cases hs

theorem CohdlVerif.C09.natCast_beq (a b : Nat) : ((a : Int) == (b : Int)) = (a == b) := by
  rw [Bool.eq_iff_iff, beq_iff_eq, beq_iff_eq, Int.natCast_inj]

theorem CohdlVerif.C09.vEq_nullFull {w n : Nat} {c : Val} {y : Int} (hc : c = .null ∨ c = .full)
    (hy : cmpOperand .bv w c = some y) : vEq w n c = .ok (.bool ((n : Int) == y)) := by
  rcases hc with rfl | rfl
  all_goals
    cases Option.some.inj hy
    exact congrArg (fun t => Res.ok (.bool t)) (natCast_beq ..).symm

/-- comparisons with Null / Full (all-zeros / all-ones of the vector's type): on the right every comparison of
    Unsigned / Signed and `==` / `!=` of BitVector; on the left `==` / `!=` -/
theorem C09.cmp_nullfull_fold_eq_spec (op : BinOp) (k : Kind) (w n : Nat) (c : Val) (hc : c = .null ∨ c = .full)
    (v : Val) :
    (specBin op (.vec k w n) c = some v → pyBin op (.vec k w n) c = .ok v) ∧
    (specBin op c (.vec k w n) = some v → pyBin op c (.vec k w n) = .ok v) := by
  -- Null / Full denote 0 / all-ones for the comparison methods of Unsigned and Signed, as in the specification
  have ⟨y, hy, hr, hl⟩ : ∃ y, cmpOperand k w c = some y ∧
      specBin op (.vec k w n) c =
        (if isCmp op && (isNumeric k || op = .eq || op = .ne) then some (.bool (cmpInt op (valOf k w n) y)) else none) ∧
      specBin op c (.vec k w n) =
        (if op = .eq || op = .ne then some (.bool (cmpInt op y (valOf k w n))) else none) := by
    rcases hc with rfl | rfl
    · refine ⟨0, by cases k <;> rfl, ?_, by cases op <;> rfl⟩
      cases op
      case fdiv => cases k <;> rfl
      all_goals rfl
    · refine ⟨_, cmpOperand_full k w, ?_, by cases op <;> rfl⟩
      cases op
      case fdiv => cases k <;> rfl
      all_goals rfl
  have hnot : ∀ op, lhsMethod op c (.vec k w n) = .notImpl := by rcases hc with rfl | rfl <;> intro _ <;> rfl
  rw [hr, hl]
  constructor
  · intro hs
    obtain ⟨hcond, rfl⟩ := of_ite_some hs
    rw [Bool.and_eq_true] at hcond
    cases k
    case bv =>
      -- plain BitVector only has `__eq__` (and its negation)
      have h2 := hcond.2
      simp only [isNumeric, Bool.false_or, Bool.or_eq_true, decide_eq_true_eq] at h2
      rcases h2 with rfl | rfl
      all_goals
        dsimp only [pyBin, lhsMethod]
        rw [vEq_nullFull hc hy]
        rfl
    all_goals exact pyBin_cmp rfl hcond.1 hy
  · intro hs
    obtain ⟨hcond, rfl⟩ := of_ite_some hs
    simp only [Bool.or_eq_true, decide_eq_true_eq] at hcond
    rcases hcond with rfl | rfl
    all_goals
      cases k
      case bv =>
        dsimp only [pyBin, rhsMethod]
        rw [hnot, vEq_nullFull hc hy]
        dsimp only [notRes, cmpInt, valOf, bne]
        rw [Bool.beq_comm]
      all_goals exact pyBin_cmp_rhs rfl rfl (hnot _) hy

example : specBin .lt (.vec .sgn 4 13) .full = some (.bool true) := by decide

example : specBin .cat (.bit true) (.vec .sgn 2 1) = some (.vec .bv 3 5) := by decide

/-- BitVector x BitVector (`& | ^` need identical widths, `== !=` equal widths) and Bit x Bit, every operator -/
theorem C09.vv_bb_fold_eq_spec (op : BinOp) (a b v : Val)
    (hab : (∃ w n w2 n2, a = .vec .bv w n ∧ b = .vec .bv w2 n2) ∨ (∃ x y, a = .bit x ∧ b = .bit y))
    (hs : specBin op a b = some v) : pyBin op a b = .ok v := by
  rcases hab with ⟨w, n, w2, n2, rfl, rfl⟩ | ⟨x, y, rfl, rfl⟩
  · cases op
    case cat => exact C09.cat_fold_eq_spec _ _ v hs
    case and | or | xor => exact vec_bitwise_fold (by decide) hs
    case shl | shr | fdiv => cases hs
    all_goals
      -- of the remaining operators only `==` and `!=` at equal widths are specified
      dsimp only [specBin] at hs
      rw [if_pos rfl, if_neg (by decide)] at hs
      obtain ⟨hc, rfl⟩ := of_ite_some hs
      rcases hc.2 with h | h <;> cases h
      all_goals
        dsimp only [pyBin, lhsMethod, vEq]
        rw [if_pos hc.1]
        dsimp only [notRes, cmpInt, bne]
        rw [natCast_beq]
  · cases op
    case cat => exact C09.cat_fold_eq_spec _ _ v hs
    case and | or | xor => cases Option.some.inj hs; rfl
    case eq | ne => cases Option.some.inj hs; cases x <;> cases y <;> rfl
    all_goals cases hs

example : specBin .xor (.vec .bv 3 5) (.vec .bv 3 6) = some (.vec .bv 3 3) := by decide

/-- unary operators and views on vectors (Unsigned / Signed / BitVector), all widths and values -/
theorem C09.un_vec_fold_eq_spec (op : UnOp) (k : Kind) (w n : Nat) (hw : 1 ≤ w) (hn : n < 2 ^ w) (v : Val)
    (hs : specUn op (.vec k w n) = some v) : pyUn op (.vec k w n) = .ok v := by
  cases op
  case neg =>
    cases k
    case bv => cases hs
    case uns =>
      cases Option.some.inj hs
      dsimp only [pyUn]
      rw [uNeg_eq w n hw hn]
      rfl
    case sgn =>
      cases Option.some.inj hs
      dsimp only [pyUn]
      rw [sNeg_eq w n hw hn]
      rfl
  case abs =>
    cases k
    case sgn =>
      cases Option.some.inj hs
      dsimp only [pyUn, sAbs]
      split
      · rw [mkS_ok _ _ (inRange_toInt w n hw hn), Int.natAbs_of_nonneg ‹_›]
        rfl
      · rw [sNeg_eq w n hw hn, Int.ofNat_natAbs_of_nonpos (by omega)]
        rfl
    all_goals cases hs
  case msb =>
    cases Option.some.inj hs
    exact congrArg (fun t => Except.ok (Val.bit t)) (msb_bit w n hw hn)
  all_goals
    cases Option.some.inj hs
    rfl

/-- unary operators on Bit and Integer -/
theorem C09.un_scalar_fold_eq_spec (op : UnOp) (a v : Val) (hk : ∀ k w n, a ≠ .vec k w n)
    (hs : specUn op a = some v) : pyUn op a = .ok v := by
  cases a
  case vec k w n => exact absurd rfl (hk k w n)
  case bit b =>
    cases op
    case inv | toBool => cases Option.some.inj hs; rfl
    all_goals cases hs
  case integer i =>
    cases op
    case neg | toBool => cases Option.some.inj hs; rfl
    all_goals cases hs
  all_goals cases op <;> cases hs

example : specBin .mod (.vec .sgn 4 9) (.vec .sgn 3 3) = some (.vec .sgn 3 2) := by decide
example : specBin .shr (.vec .sgn 4 13) (.vec .uns 2 1) = some (.vec .sgn 4 14) := by decide
example : specBin .rem (.int (-7)) (.vec .sgn 4 3) = some (.vec .sgn 4 15) := by decide
example : specBin .sub (.vec .sgn 4 8) (.integer 7) = some (.vec .sgn 4 1) := by decide
example : specBin .tdiv (.int 13) (.vec .uns 4 5) = some (.vec .uns 4 2) := by decide

/-- the bit-level loop of `Unsigned.add` / `Signed.add` is addition modulo 2^t, for every width -/
theorem C09.ripple_add_exact (t a b : Nat) : ripple t a b = (a + b) % 2 ^ t := ripple_eq t a b

/-! ## witnesses against the unpatched code (`pyBinOld` = behaviour of /repo before fixes/C09-*.patch) -/

/-- `Unsigned[4](5) - Unsigned[2](1)` folded to 8 (run time: 4): rhs was negated at its own width -/
theorem C09.sub_uu_old_fails_at :
    pyBinOld .sub (.vec .uns 4 5) (.vec .uns 2 1) = .ok (.vec .uns 4 8) ∧
    specBin .sub (.vec .uns 4 5) (.vec .uns 2 1) = some (.vec .uns 4 4) := ⟨rfl, rfl⟩

/-- `Signed[4](0) - Signed[2](-2)` folded to -2 (run time: 2) -/
theorem C09.sub_ss_old_fails_at :
    pyBinOld .sub (.vec .sgn 4 0) (.vec .sgn 2 2) = .ok (.vec .sgn 4 14) ∧
    specBin .sub (.vec .sgn 4 0) (.vec .sgn 2 2) = some (.vec .sgn 4 2) := ⟨rfl, rfl⟩

/-- `3 * Unsigned[4](5)` folded to 25 (run time: 15): `__rmul__` used `lhs = int(rhs)` -/
theorem C09.rmul_iu_old_fails_at :
    pyBinOld .mul (.int 3) (.vec .uns 4 5) = .ok (.vec .uns 8 25) ∧
    specBin .mul (.int 3) (.vec .uns 4 5) = some (.vec .uns 8 15) := ⟨rfl, rfl⟩

/-- `op.truncdiv(Signed[4](-8), Signed[4](-1))` raised at compile time (run time: wraps to -8) -/
theorem C09.truncdiv_ss_old_fails_at :
    pyBinOld .tdiv (.vec .sgn 4 8) (.vec .sgn 4 15) = .error .assertErr ∧
    specBin .tdiv (.vec .sgn 4 8) (.vec .sgn 4 15) = some (.vec .sgn 4 8) := ⟨rfl, rfl⟩

/-- the unpatched subtraction is right exactly when the subtrahend is not narrower than the minuend -/
theorem C09.sub_uu_old_partial (wa na wb nb : Nat) (hwa : 1 ≤ wa) (hb : nb < 2 ^ wb) (hw : wa ≤ wb) :
    pyBinOld .sub (.vec .uns wa na) (.vec .uns wb nb) = pyBin .sub (.vec .uns wa na) (.vec .uns wb nb) := by
  -- then the result width is the subtrahend's own, so both negate at the same width
  dsimp only [pyBinOld, pyBin, lhsMethod, uSubOld, uSub]
  rw [Nat.max_eq_right hw, uNeg_eq wb nb (by omega) hb]
  rfl

example : (5 : Nat) < 2 ^ 4 ∧ (1 : Nat) < 2 ^ 2 := by decide
