import CohdlVerif.Lemmas.C11History

/-!
  C11 - property theorems (declared with their full name `C11.<name>`; helper lemmas are in Lemmas/C11Lemmas.lean and
  Lemmas/C11History.lean).

  `Cfg.orig`  = the pinned tree (no repair), `Cfg.fixed` = the tree with the six fixes/C11-*.patch applied.
  A design is the event list its compilation goes through, crash point (`Ev.fail`) included, so a statement
  "for every design" is also a statement for every crash point.
-/
open CohdlVerif.C11

namespace CohdlVerif.C11

/-- witnesses: a rejected design per leaked piece of state (crash point = last event) -/
def crashInSM : Design :=
  [.enter .conv [], .enter .arch [1], .exit, .enter .blk [], .exit, .exit,
   .enter .irapply [], .enter .ircall [], .enter .sm [], .enter .loop [], .fail]
def crashInTrace : Design := [.enter .conv [], .enter .arch [1], .exit, .enter .blk [], .fail]
def crashInPrefix : Design := [.enter .conv [], .enter .arch [1], .exit, .enter .blk [], .enter .pfx [5], .fail]
def crashInCtx : Design := [.enter .conv [], .enter .arch [1], .exit, .enter .blk [], .enter .ctx [7], .fail]
def crashInArch : Design := [.enter .conv [], .enter .arch [1], .fail]
/-- accepted designs used as the second element of the two-design histories -/
def coroDesign : Design :=
  [.enter .conv [], .enter .arch [2], .exit, .enter .blk [], .exit, .exit, .enter .sm [], .act (.emit 1), .exit]
def prefixDesign : Design :=
  [.enter .conv [], .enter .arch [2], .exit, .enter .blk [], .enter .pfx [6], .act (.name 9), .exit, .exit, .exit]
def needsCtxDesign : Design :=
  [.enter .conv [], .enter .arch [2], .exit, .enter .blk [], .act .useCtx, .exit, .exit]
def libsDesign : Design := [.enter .conv [], .enter .arch [2], .exit, .exit, .act (.libs [3, 1, 2])]

end CohdlVerif.C11

/-- THE INVARIANT (repaired tree): whatever the design does and wherever it crashes, a compilation started in a
    clean state leaves a clean state. -/
theorem C11.compile_preserves_clean (perm : List Nat → List Nat) (d : Design) (g : G) (h : Clean g) :
    Clean (compile Cfg.fixed perm d g).2 :=
  run_inv (P := Inv) (Q := Clean) inv_enter inv_act inv_exitOk inv_exitExc (fun _ h1 => clean_age (clean_of_inv h1))
    d [] 0 g [] (inv_of_clean h)

example : Clean G.init := clean_init
example : Clean (compile Cfg.fixed id crashInSM G.init).2 := C11.compile_preserves_clean _ _ _ clean_init

/-- clean states are closed under whole histories of accepted and rejected designs -/
theorem C11.history_preserves_clean (perm : List Nat → List Nat) (ds : List Design) (g : G) (h : Clean g) :
    Clean (ds.foldl (fun g d => (compile Cfg.fixed perm d g).2) g) := by
  induction ds generalizing g with
  | nil => exact h
  | cons d ds ih => exact ih _ (C11.compile_preserves_clean perm d g h)

/-! The invariant is FALSE on the pinned tree: one crash point per leaked piece of state. -/

/-- `StatemachineContext._singleton` stays set when IR generation fails inside a coroutine ... -/
theorem C11.compile_preserves_clean_fails_at_sm :
    ¬ Clean (compile Cfg.orig id crashInSM G.init).2 := by
  intro h; have := h.1 .sm rfl; revert this; decide

/-- ... and every later coroutine design is rejected with "nested StatemachineContext" -/
theorem C11.history_dependence_sm :
    (compile Cfg.orig id coroDesign G.init).1 = .ok [[8, 1]] ∧
    (compile Cfg.orig id coroDesign (compile Cfg.orig id crashInSM G.init).2).1 = .reject .nestedSM := by
  decide +kernel

/-- the dummy block stays on `_block_stack` when tracing fails -/
theorem C11.compile_preserves_clean_fails_at_blk :
    ¬ Clean (compile Cfg.orig id crashInTrace G.init).2 := by
  intro h; have := h.1 .blk rfl; revert this; decide

/-- ... `current_entity()` then is the dead block for ever, `_Prefix` no longer resets its counters and the SECOND
    later compilation of a design with a traced prefix gets different names -/
theorem C11.history_dependence_blk :
    let g1 := (compile Cfg.orig id crashInTrace G.init).2
    let g2 := (compile Cfg.orig id prefixDesign g1).2
    (compile Cfg.orig id prefixDesign G.init).1 = .ok [[1, 6, 9]] ∧
    (compile Cfg.orig id prefixDesign g2).1 = .ok [[1, 6, 1001, 9]] := by
  decide +kernel

/-- `_Prefix._prefix_scope` keeps the prefix of a traced `with std.prefix` whose body fails -/
theorem C11.compile_preserves_clean_fails_at_pfx :
    ¬ Clean (compile Cfg.orig id crashInPrefix G.init).2 := by
  intro h; have := h.1 .pfx rfl; revert this; decide

theorem C11.history_dependence_pfx :
    (compile Cfg.orig id prefixDesign (compile Cfg.orig id crashInPrefix G.init).2).1 = .ok [[1, 5, 6, 9]] := by
  decide +kernel

/-- `std._context._current_context` keeps the context of a rejected design: a design that must be rejected
    ("no clock known") is accepted afterwards with the dead design's clock -/
theorem C11.compile_preserves_clean_fails_at_ctx :
    ¬ Clean (compile Cfg.orig id crashInCtx G.init).2 := by
  intro h; have := h.1 .ctx rfl; revert this; decide

theorem C11.history_dependence_ctx :
    (compile Cfg.orig id needsCtxDesign G.init).1 = .reject .noCtx ∧
    (compile Cfg.orig id needsCtxDesign (compile Cfg.orig id crashInCtx G.init).2).1 = .ok [[2, 7]] := by
  decide +kernel

/-- `EntityInfo.instantiated` stays set when the architecture raises: a later design that instantiates the class is
    compiled without running the architecture again (the partial instance is used; token `[3, 1]`) -/
theorem C11.compile_preserves_clean_fails_at_inst :
    ¬ Clean (compile Cfg.orig id crashInArch G.init).2 := by
  intro h; have := h.2.1; revert this; decide

theorem C11.history_dependence_inst :
    (compile Cfg.orig id crashInArch G.init).1 = .reject .crash ∧
    (compile Cfg.orig id (crashInArch.dropLast ++ [.exit, .exit]) (compile Cfg.orig id crashInArch G.init).2).1
      = .ok [[3, 1]] := by
  decide +kernel

/-- with the repairs none of the five witnesses leaves anything behind (instances of the invariant theorem) -/
theorem C11.witnesses_clean_when_fixed :
    ∀ d ∈ [crashInSM, crashInTrace, crashInPrefix, crashInCtx, crashInArch],
      Clean (compile Cfg.fixed id d G.init).2 :=
  fun d _ => C11.compile_preserves_clean _ d _ clean_init

/-- a sound cache answers every lookup with the value computed from the key alone, and stays sound -/
theorem C11.cache_transparent (c : List (Nat × Nat)) (k : Nat) (h : CacheSound c) :
    (cacheGet c k).1 = defOf k ∧ CacheSound (cacheGet c k).2 :=
  cacheGet_sound k h

example : CacheSound (cacheGet (cacheGet [] 3).2 4).2 :=
  (cacheGet_sound 4 (cacheGet_sound 3 (fun _ h => by simp at h)).2).2

/-- every action yields the same result under any two iteration orders of the audited sets, once the library
    set is emitted sorted (fixes/C11-library-order.patch) -/
theorem C11.act_independent_of_perm (cfg : Cfg) (hfix : cfg.fixLib = true) (p q : List Nat → List Nat)
    (hp : ∀ xs, (p xs).Perm xs) (hq : ∀ xs, (q xs).Perm xs) (a : Act) (g : G) :
    act cfg p a g = act cfg q a g := by
  cases a <;> simp only [act]
  case libs xs =>
    simp only [hfix, if_true]
    rw [isort_eq_of_perm ((hp xs).trans (hq xs).symm)]
  case mem x xs => rw [((hp xs).trans (hq xs).symm).contains_eq]

/-- the compilation result and the state left behind do not depend on the iteration order of the sets -/
theorem C11.output_independent_of_perm (cfg : Cfg) (hfix : cfg.fixLib = true) (p q : List Nat → List Nat)
    (hp : ∀ xs, (p xs).Perm xs) (hq : ∀ xs, (q xs).Perm xs) (d : Design) (g : G) :
    compile cfg p d g = compile cfg q d g :=
  run_congr_act (C11.act_independent_of_perm cfg hfix p q hp hq) d [] 0 g []

example : (∀ xs : List Nat, (List.reverse xs).Perm xs) := fun xs => List.reverse_perm xs

/-- on the pinned tree the emitted library clauses follow the set iteration order (PYTHONHASHSEED) -/
theorem C11.output_independent_of_perm_fails_at_libs :
    (compile Cfg.orig id libsDesign G.init).1 ≠ (compile Cfg.orig List.reverse libsDesign G.init).1 := by
  decide

/-- THE PROPERTY on the model: started in a clean state whose caches are sound and whose prefix counters belong to
    an earlier compilation (both hold after every compilation, `C11.owner_old_after_compile`,
    `C11.caches_sound_after_compile`; the reserved names by `C11.reserved_names_unchanged`),
    the result of compiling a design - verdict, error class and every emitted token - is the one of a pristine
    interpreter.  Holds for every configuration of repairs: what the repairs add is that the state stays clean
    (`C11.compile_preserves_clean`).  The masked pieces (`returned_blocks`, `_current_frame`), the caches, the counter
    and the stale prefix counters may differ arbitrarily. -/
theorem C11.output_independent_of_history (cfg : Cfg) (perm : List Nat → List Nat) (d : Design) (g : G)
    (h : Clean g) (ho : Old g.owner) (hf : CacheSound g.fnCache) (ht : CacheSound g.tyCache)
    (hr : g.reserved = G.init.reserved) :
    (compile cfg perm d g).1 = (compile cfg perm d G.init).1 :=
  run_result_eq cfg perm d [] 0 g G.init [] (sim_init h ho ⟨hf, ht⟩ hr)

/-- the class-level containers of the back end (`ModuleScope._vhdl_reserved`, `_additional_reserved`) have the
    same content after every compilation, whatever options (`additional_reserved_names`) it was given and wherever
    it crashed: the names of one compilation never stay reserved for the next -/
theorem C11.reserved_names_unchanged (cfg : Cfg) (perm : List Nat → List Nat) (d : Design) (g : G) :
    (compile cfg perm d g).2.reserved = g.reserved :=
  (compile_static cfg perm d g).1

/-- the hypothesis on the prefix owner holds after every compilation, whatever happened in it -/
theorem C11.owner_old_after_compile (cfg : Cfg) (perm : List Nat → List Nat) (d : Design) (g : G) :
    Old (compile cfg perm d g).2.owner :=
  run_inv (P := fun _ _ => True) (Q := fun g => Old g.owner) (fun _ _ => trivial) (fun _ _ => trivial)
    (fun _ _ => trivial) (fun _ _ => trivial) (fun g _ => old_age g) d [] 0 g [] trivial

/-- non-vacuity: the state left by a rejected design on the repaired tree satisfies the hypotheses, although its
    masked pieces are dirty and its prefix counters are not empty -/
example : let g := (compile Cfg.fixed id crashInSM G.init).2
    Clean g ∧ Old g.owner ∧ g.s .ircall ≠ [] :=
  ⟨C11.compile_preserves_clean _ _ _ clean_init, C11.owner_old_after_compile _ _ _ _, by decide⟩

/-- caches stay sound through every compilation (accepted, rejected, any crash point) -/
theorem C11.caches_sound_after_compile (cfg : Cfg) (perm : List Nat → List Nat) (d : Design) (g : G)
    (h : CachesSound g) : CachesSound (compile cfg perm d g).2 :=
  (compile_static cfg perm d g).2 h

/-- `Sim g G.init`: no compilation can tell `g` from a pristine interpreter -/
theorem CohdlVerif.C11.sim_init_compile (perm : List Nat → List Nat) (d : Design) (g : G) (h : Sim g G.init) :
    Sim (compile Cfg.fixed perm d g).2 G.init :=
  sim_init (C11.compile_preserves_clean perm d g ⟨h.s, h.inst, h.reg⟩) (C11.owner_old_after_compile _ _ _ _)
    (C11.caches_sound_after_compile _ _ _ _ h.caches) ((C11.reserved_names_unchanged _ _ _ _).trans h.res)

theorem CohdlVerif.C11.sim_init_history (perm : List Nat → List Nat) (hist : List Design) (g : G)
    (h : Sim g G.init) : Sim (hist.foldl (fun g r => (compile Cfg.fixed perm r g).2) g) G.init := by
  induction hist generalizing g with
  | nil => exact h
  | cons r rs ih => exact ih _ (sim_init_compile perm r g h)

/-- THE PROPERTY, closed form (repaired tree): after ANY history of accepted and rejected designs started in a
    pristine interpreter, compiling `d` gives exactly the result of compiling `d` in a pristine interpreter. -/
theorem C11.output_independent_of_any_history (perm : List Nat → List Nat) (hist : List Design) (d : Design) :
    (compile Cfg.fixed perm d (hist.foldl (fun g r => (compile Cfg.fixed perm r g).2) G.init)).1
      = (compile Cfg.fixed perm d G.init).1 :=
  run_result_eq _ perm d [] 0 _ G.init [] (sim_init_history perm hist G.init
    (sim_init clean_init (fun _ hp => nomatch hp) ⟨cacheSound_nil, cacheSound_nil⟩ rfl))

/-- two-step corollary on the repaired tree: a rejected design never changes the result of the next compilation
    (caches untouched by the first design for simplicity of the statement) -/
theorem C11.rejected_design_is_harmless (perm : List Nat → List Nat) (r d : Design)
    (hf : CacheSound (compile Cfg.fixed perm r G.init).2.fnCache)
    (ht : CacheSound (compile Cfg.fixed perm r G.init).2.tyCache) :
    (compile Cfg.fixed perm d (compile Cfg.fixed perm r G.init).2).1 = (compile Cfg.fixed perm d G.init).1 :=
  C11.output_independent_of_any_history perm [r] d

/-- non-vacuity / contrast: on the pinned tree the same statement fails for a two-element history -/
theorem C11.output_independent_of_any_history_fails_on_pinned_tree :
    (compile Cfg.orig id coroDesign ([crashInSM].foldl (fun g r => (compile Cfg.orig id r g).2) G.init)).1
      ≠ (compile Cfg.orig id coroDesign G.init).1 := by
  decide +kernel

/-! ## per-class state: dynamic ports (`std.add_entity_port`) -/

namespace CohdlVerif.C11
/-- a design whose architecture adds two ports to its entity class -/
def dynDesign : Design :=
  [.enter .conv [], .enter .arch [7], .act (.addPort 1), .act (.addPort 2), .exit, .enter .blk [], .exit, .exit]
end CohdlVerif.C11

/-- the ports added by one elaboration stay on the class (they can be inspected after the build) ... -/
theorem C11.dynamic_ports_kept_after_compile :
    (compile Cfg.fixed id dynDesign G.init).2.dyn = [(7, 2), (7, 1)] := by decide

/-- ... and are discarded when the class is elaborated again: compiling the same class a second (third, ..) time
    gives the result of a pristine interpreter (instance of `C11.output_independent_of_any_history`), in particular
    it is not rejected with "port already exists" -/
theorem C11.dynamic_ports_recompile (perm : List Nat → List Nat) (k : Nat) :
    (compile Cfg.fixed perm dynDesign ((List.replicate k dynDesign).foldl (fun g r => (compile Cfg.fixed perm r g).2) G.init)).1
      = .ok [[9, 7, 1], [9, 7, 2]] := by
  rw [C11.output_independent_of_any_history]
  rfl

/-! ## compiler options: `additional_reserved_names` -/

namespace CohdlVerif.C11
/-- a compilation given the option `additional_reserved_names = {5}` whose design declares the names 5 and 6 -/
def reservingDesign : Design :=
  [.enter .conv [], .enter .arch [8], .exit, .exit, .enter .scope [5], .act (.declare 5), .act (.declare 6), .exit]
/-- a later design that uses the name 5 WITHOUT the option -/
def plainDesign : Design :=
  [.enter .conv [], .enter .arch [9], .exit, .exit, .enter .scope [], .act (.declare 5), .exit]
end CohdlVerif.C11

/-- the option acts on the compilation it is given to (5 is renamed, 6 is not) and on no later one -/
theorem C11.reserved_option_is_local :
    (compile Cfg.fixed id reservingDesign G.init).1 = .ok [[10, 5, 1], [10, 6, 0]] ∧
    (compile Cfg.fixed id plainDesign (compile Cfg.fixed id reservingDesign G.init).2).1 = .ok [[10, 5, 0]] := by
  decide +kernel

/-! ## `id()`-keyed cache: key liveness is part of the state -/

/-- cache transparency at the level of ADDRESSES: in a heap whose cache entries keep their key objects alive, a
    lookup at the address of a live object returns the definition of that object (whatever was cached before, whatever
    was allocated and freed before), and the heap stays well-formed -/
theorem C11.cache_transparent_live (h : Heap) (a f : Nat) (ok : h.Ok) (hl : (a, f) ∈ h.live) :
    ∃ h1, h.lookup a = some (defOf f, h1) ∧ h1.Ok :=
  Heap.lookup_live ok hl

/-- the invariant survives every allocation, every lookup and every attempt to free an object - as long as the cache
    entry holds a reference to its key object (`keep = true`, i.e. `_known_definitions[id(c)] = [result, c]`) -/
theorem C11.cache_key_kept_alive (h : Heap) (a f : Nat) (ok : h.Ok) :
    (h.free true a).Ok ∧ (∀ h1, h.alloc a f = some h1 → h1.Ok) :=
  ⟨Heap.ok_free a ok, fun _ e => Heap.ok_alloc ok e⟩

example : Heap.empty.Ok := Heap.ok_empty

/-- WITHOUT that reference (`keep = false`, the entry stores something else than the key object) the address of a
    freed key is handed out again and the stale entry answers for the new object: object 10 cached at address 1,
    freed, object 20 allocated at address 1 -> the lookup returns the definition of 10 -/
theorem C11.cache_stale_when_key_not_kept :
    (do let h1 ← Heap.empty.alloc 1 10
        let (_, h2) ← h1.lookup 1
        let h3 ← (h2.free false 1).alloc 1 20
        let (d, _) ← h3.lookup 1
        pure d) = some (defOf 10) ∧ defOf 10 ≠ defOf 20 ∧
    (do let h1 ← Heap.empty.alloc 1 10
        let (_, h2) ← h1.lookup 1
        (h2.free true 1).alloc 1 20) = none := by
  decide +kernel
